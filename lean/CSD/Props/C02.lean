/-
  C02 — No false positives: absent strings give NORESULT, bad IDs give NULL.

  For the models of PFC, RPFC, RPDAC and FMINDEX (through `Refines`: `locate` is `Spec.locate`, which is 0 off the
  dictionary) and of the hash kinds — the plain table, HASHRPDAC, HASHRPF and HASHRPDACBlocks — where a probe
  sequence ends at a free cell or exhausts the table.
-/
import CSD.Model.SourceText
import CSD.Generated.Bodies
import CSD.Lemmas.HashBlocks
import CSD.Lemmas.HashRP
import CSD.Lemmas.Refines

namespace CSD.Props.C02
open CSD CSD.PFC

/-- Every NUL-free `q ∉ S` — proper prefix, extension, below the first or above the last member — is answered 0
(`NORESULT`); the outer `some`: the lookup reads only inside the text. -/
theorem pfc_locate_absent (b : Nat) (S : List Str) (hv : validDict S = true)
    (q : Str) (hq : nulFree q) (habs : q ∉ S) :
    PFC.locate (PFC.build b S) q = some 0 :=
  (PFC.refines b hv).locate_absent q hq habs

/-- `extract` of ID 0 or of an ID above the number of elements is NULL. -/
theorem pfc_extract_bad_id (b : Nat) (S : List Str) (i : Nat) (h : i = 0 ∨ i > S.length) :
    PFC.extract (PFC.build b S) i = some none :=
  PFC.extract_bad_id b S i h

/-- A positive answer is never fabricated: if `locate` returns `i > 0` then `q` is the member with that rank. -/
theorem pfc_locate_sound (b : Nat) (S : List Str) (hv : validDict S = true)
    (q : Str) (hq : nulFree q) (i : Nat) (hi : 0 < i)
    (h : PFC.locate (PFC.build b S) q = some i) : S[i - 1]? = some q :=
  (PFC.refines b hv).locate_sound q hq i hi h

/-- Hash kinds: a non-member is answered 0 — its probe sequence ends at a free cell or exhausts the table. -/
theorem hash_locate_absent (tsize0 : Nat) (S : List Str) (hnd : S.Nodup) (hcap : S.length ≤ tsize0)
    (hacc : Hash.accepted (Hash.build tsize0 S).tsize = true) (q : Str) (hq : q ∉ S) :
    Hash.locate (Hash.build tsize0 S) q = 0 :=
  Hash.locate_absent (Hash.goodDict_build tsize0 S hnd hcap hacc) q hq

/-- HASHRPDACBlocks: an absent string is answered 0 whichever part the samples select. -/
theorem blocks_locate_absent (cutSize : Nat) (tsizeOf : Nat → Nat) (S : List Str)
    (ok : Hash.PartsOK cutSize tsizeOf S) (q : Str) (hq : q ∉ S) :
    Hash.locateBlocks (Hash.buildBlocks cutSize tsizeOf S) q = 0 :=
  Hash.blocks_locate_absent ok q hq

/-- HASHRPDAC end to end: an absent NUL-free query is answered 0 by the real `locate`, which compares through the
grammar; the `some`: no comparison reads outside the query's buffer. -/
theorem hashrpdac_locate_absent (tsize0 : Nat) (S : List Str) (hnd : S.Nodup) (hcap : S.length ≤ tsize0)
    (hacc : Hash.accepted (Hash.build tsize0 S).tsize = true) (hS : ∀ s ∈ S, PFC.nulFree s)
    (g : RePair.Grammar) (seqs : List (List Nat)) (st : Hash.StoresRP (Hash.build tsize0 S) g seqs)
    (q : Str) (hq : PFC.nulFree q) (habs : q ∉ S) :
    Hash.locateRP (Hash.build tsize0 S) g seqs q = some 0 := by
  have gd := Hash.goodDict_build tsize0 S hnd hcap hacc
  rw [Hash.locateRP_eq gd hS g seqs st q hq, Hash.locate_absent gd q habs]

/-- HASHRPF end to end: an absent query — also one that contains the terminator byte, or is a prefix or an
extension of a member — is answered 0, and `extractStringAndCompareRP` never reads past the stored string's symbols
or the pattern buffer. -/
theorem hashrpf_locate_absent (tsize0 : Nat) (S : List Str) (hnd : S.Nodup) (hcap : S.length ≤ tsize0)
    (hacc : Hash.accepted (Hash.build tsize0 S).tsize = true)
    (g : RePair.Grammar) (T : Nat) (cls : List Nat) (offs : Nat → Nat)
    (st : Hash.StoresRPF (Hash.build tsize0 S) g T cls offs) (q : Str) (habs : q ∉ S) :
    Hash.locateRPF (Hash.build tsize0 S) g T cls offs q = some 0 := by
  have gd := Hash.goodDict_build tsize0 S hnd hcap hacc
  rw [Hash.locateRPF_eq gd g T cls offs st q, Hash.locate_absent gd q habs]

/-- `extractStringAndCompareRP` itself returns 0 exactly for the stored string. -/
theorem rp_compare_decides_equality (g : RePair.Grammar) (hwf : g.wf = true) (T : Nat) (syms rest : List Nat)
    (hv : ∀ x ∈ syms, x < g.terminals + g.rules.length) (s q : Str)
    (hexp : g.expand syms = Hash.natBytes s ++ [T]) (hTs : T ∉ Hash.natBytes s) :
    ∃ c, Hash.compareRP g T (syms ++ rest) (Hash.natBytes q) = some c ∧ (c = 0 ↔ s = q) :=
  Hash.compareRP_spec g hwf T syms rest hv s q hexp hTs

/-- Hash kinds: ID 0 and IDs above `n` extract nothing. -/
theorem hash_extract_bad_id (tsize0 : Nat) (S : List Str) (i : Nat) (h : i = 0 ∨ i > S.length) :
    Hash.extract (Hash.build tsize0 S) i = none :=
  Hash.extract_invalid _ i h

example : validDict [[0x61, 0x62], [0x62]] = true ∧ ([0x61] : Str) ∉ [[0x61, 0x62], [0x62]] := by decide

/-- The models of this file were written against the current text of the C++ functions they mirror (DESIGN.md §4.1). -/
theorem models_match_source_text :
    Generated.body_PFC_locate = SourceText.body_PFC_locate ∧
    Generated.body_PFC_locateBucket = SourceText.body_PFC_locateBucket ∧
    Generated.body_PFC_getHeader = SourceText.body_PFC_getHeader ∧
    Generated.body_PFC_decodeNextString = SourceText.body_PFC_decodeNextString ∧
    Generated.body_PFC_extract = SourceText.body_PFC_extract ∧
    Generated.body_bitwisehash = SourceText.body_bitwisehash ∧
    Generated.body_step_value = SourceText.body_step_value ∧
    Generated.body_nearest_prime = SourceText.body_nearest_prime ∧
    Generated.body_HashDAC_insert = SourceText.body_HashDAC_insert ∧
    Generated.body_HASHRPDAC_locate = SourceText.body_HASHRPDAC_locate ∧
    Generated.body_HASHRPDAC_extract = SourceText.body_HASHRPDAC_extract ∧
    Generated.body_Blocks_search_before = SourceText.body_Blocks_search_before ∧
    Generated.body_Blocks_locate = SourceText.body_Blocks_locate ∧
    Generated.body_RePair_compareDAC = SourceText.body_RePair_compareDAC ∧
    Generated.body_RePair_compareRule = SourceText.body_RePair_compareRule ∧
    Generated.body_RePair_compareRP = SourceText.body_RePair_compareRP ∧
    Generated.body_HASHRPF_locate = SourceText.body_HASHRPF_locate ∧
    Generated.body_Hash_insert = SourceText.body_Hash_insert := ⟨rfl, rfl, rfl, rfl, rfl, rfl, rfl, rfl, rfl, rfl, rfl, rfl, rfl, rfl, rfl, rfl, rfl, rfl⟩

/-- `StringDictionaryFMINDEX::locate`: a non-member over `0x02 .. 0xFE` is answered 0 (the backward search ends with
an empty interval or at a symbol outside the alphabet), and no structure is read out of bounds. -/
theorem fmindex_locate_absent {S : List Str} {L : List FM.Row} {d : FM.Dict} (hv : validDict S = true)
    (hd : FM.DictOK S L d) (q : Str) (hq : q.all validByte = true) (habs : q ∉ S) : d.locate q = some 0 :=
  (FM.refinesLocate hv hd).locate_absent q hq habs

/-- The hypotheses are met by the model's own build for every `S` and every sampling step. -/
theorem fmindex_hypotheses_hold (S : List Str) (step : Nat) :
    FM.DictOK S (FM.sortRows (FM.mkText S)) (FM.buildDict S step) := FM.dictOK_buildDict S step

example : validDict [[0x61, 0x62], [0x62]] = true ∧ (∃ L d, FM.DictOK [[0x61, 0x62], [0x62]] L d) ∧ ([0x61] : Str).all validByte = true :=
  ⟨by decide, ⟨_, _, FM.dictOK_buildDict _ 3⟩, by decide⟩

/-- `extract` of an ID outside `[1, n]` is NULL (FMINDEX). -/
theorem fmindex_extract_bad_id {S : List Str} {L : List FM.Row} {d : FM.Dict} (hd : FM.DictOK S L d) (id : Nat)
    (h : id = 0 ∨ id > S.length) : d.extract id = some none := FM.extract_bad_id hd id h

/-- The FM-index models were written against the current text of the C++ functions they mirror. -/
theorem fm_models_match_source_text :
    Generated.body_SSA_locate_id = SourceText.body_SSA_locate_id ∧
    Generated.body_SSA_locateP = SourceText.body_SSA_locateP ∧
    Generated.body_SSA_locate = SourceText.body_SSA_locate ∧
    Generated.body_SSA_extract_id = SourceText.body_SSA_extract_id ∧
    Generated.body_SSA_build_index = SourceText.body_SSA_build_index ∧
    Generated.body_SSA_build_bwt = SourceText.body_SSA_build_bwt ∧
    Generated.body_FMINDEX_ctor = SourceText.body_FMINDEX_ctor ∧
    Generated.body_FMINDEX_locate = SourceText.body_FMINDEX_locate ∧
    Generated.body_FMINDEX_extract = SourceText.body_FMINDEX_extract ∧
    Generated.body_FMINDEX_locatePrefix = SourceText.body_FMINDEX_locatePrefix ∧
    Generated.body_FMINDEX_locateSubstr = SourceText.body_FMINDEX_locateSubstr ∧
    Generated.body_FMINDEX_build_ssa = SourceText.body_FMINDEX_build_ssa :=
  ⟨rfl, rfl, rfl, rfl, rfl, rfl, rfl, rfl, rfl, rfl, rfl, rfl⟩

/-- `extract` of an ID outside `[1, n]` is NULL (RPFC). -/
theorem rpfc_extract_bad_id {S : List Str} {d : RPFC.D} (hst : RPFC.Stores S d) (i : Nat)
    (h : i = 0 ∨ i > S.length) : RPFC.extract d i = some none := RPFC.extract_bad_id hst i h

theorem rpfc_locate_absent {S : List Str} {d : RPFC.D} (hst : RPFC.Stores S d) (hv : validDict S = true)
    (q : Str) (hq : nulFree q) (habs : q ∉ S) : RPFC.locate d q = some 0 :=
  (RPFC.refines hst hv).locate_absent q hq habs

/-- The RPFC models were written against the current text of the C++ functions they mirror. -/
theorem rpfc_models_match_source_text :
    Generated.body_RPFC_decodeString = SourceText.body_RPFC_decodeString ∧
    Generated.body_RPFC_decodeSymbol = SourceText.body_RPFC_decodeSymbol ∧
    Generated.body_RPFC_getHeader = SourceText.body_RPFC_getHeader ∧
    Generated.body_RPFC_locateBucket = SourceText.body_RPFC_locateBucket ∧
    Generated.body_RPFC_locate = SourceText.body_RPFC_locate ∧
    Generated.body_RPFC_extract = SourceText.body_RPFC_extract ∧
    Generated.body_RPFC_locatePrefix = SourceText.body_RPFC_locatePrefix ∧
    Generated.body_RPFC_locateBoundaryBuckets = SourceText.body_RPFC_locateBoundaryBuckets ∧
    Generated.body_RPFC_searchPrefix = SourceText.body_RPFC_searchPrefix ∧
    Generated.body_RPFC_searchDistinctPrefix = SourceText.body_RPFC_searchDistinctPrefix :=
  ⟨rfl, rfl, rfl, rfl, rfl, rfl, rfl, rfl, rfl, rfl⟩

/-- A NUL-free non-member is answered 0 by RPDAC (binary search with `extractStringAndCompareDAC`); every comparison
stays inside the pattern's buffer. -/
theorem rpdac_locate_absent (d : RPDAC.D) (S : List Str) (r : RPDAC.Represents d S) (hv : validDict S = true)
    (q : Str) (hq : nulFree q) (habs : q ∉ S) : RPDAC.locate d (RPDAC.bytesNat q) = some 0 :=
  (RPDAC.refines d S r hv).locate_absent q hq habs

/-- `extract` of an ID outside `[1, n]` is NULL (RPDAC, whose model says `none` for NULL). -/
theorem rpdac_extract_bad_id (d : RPDAC.D) (S : List Str) (r : RPDAC.Represents d S) (i : Nat)
    (h : i = 0 ∨ i > S.length) : RPDAC.extract d i = none :=
  RPDAC.extract_bad_id d S r i h

end CSD.Props.C02
