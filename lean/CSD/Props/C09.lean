/-
  C09 — Parallel block build is deterministic for any thread count and schedule.

  Over the model of the worker pool (C10): the cut of the input into blocks partitions it in order, and once
  `wait_workers` has returned every block has been built exactly once, so the parts do not depend on the schedule;
  the image of the block dictionary determines its fields.
-/
import CSD.Generated.PoolOps
import CSD.Lemmas.BlockLayout
import CSD.Lemmas.BlocksImage
import CSD.Lemmas.PoolSafety

namespace CSD.Props.C09
open CSD CSD.Pool CSD.Blocks

theorem cut_partitions (c : Nat) (S : List Str) :
    (cut c S).flatten = S ∧ ∀ b ∈ cut c S, b ≠ [] :=
  ⟨cut_flatten c S, cut_nonempty c S⟩

/-- When `wait_workers` has returned, slot `i` of the `parts` vector holds the part built from block `i` alone, for
every number of workers ≥ 1 and every schedule — hence so is the saved image, a function of the cut and the parts. -/
theorem parts_schedule_independent {α : Type} (build : List Str → α) (c : Nat) (S : List Str)
    {n : Nat} (hn : 0 < n) {s : State}
    (h : Reachable n (List.range (cut c S).length) s) (hd : s.prod = .done) :
    partsOf build (cut c S) s.ran = (cut c S).map (fun b => some (build b)) := by
  apply partsOf_complete
  intro i hi
  have := exactly_once_at_termination hn h hd i
  have hpos : 0 < List.count i (List.range (cut c S).length) :=
    List.count_pos_iff.mpr (List.mem_range.mpr hi)
  exact List.count_pos_iff.mp (by omega)

theorem parts_equal_across_runs {α : Type} (build : List Str → α) (c : Nat) (S : List Str)
    {n₁ n₂ : Nat} (h1 : 0 < n₁) (h2 : 0 < n₂) {s₁ s₂ : State}
    (r1 : Reachable n₁ (List.range (cut c S).length) s₁) (d1 : s₁.prod = .done)
    (r2 : Reachable n₂ (List.range (cut c S).length) s₂) (d2 : s₂.prod = .done) :
    partsOf build (cut c S) s₁.ran = partsOf build (cut c S) s₂.ran := by
  rw [parts_schedule_independent build c S h1 r1 d1, parts_schedule_independent build c S h2 r2 d2]

/-- The synchronisation skeleton of the pool and of the Blocks constructor (slot reservation and slot fill under
`m`, completion wait, stop, join) extracted from the source on this run is the one the model was written against. -/
theorem blocks_protocol_matches_source : CSD.Generated.poolOps = sourceShape := rfl

example : cut 3 [[0x61], [0x62, 0x63], [0x64]] = [[[0x61], [0x62, 0x63]], [[0x64]]] := by decide

/-- In the model the image is `BlocksImg.save` of the fields (parts, first strings, starting IDs) and of nothing
else, so equal fields give equal bytes; the theorem below is the converse. -/
theorem blocks_image_determined_by_fields (d₁ d₂ : BlocksImg.Img) (h : d₁ = d₂) : BlocksImg.save d₁ = BlocksImg.save d₂ := by
  rw [h]

theorem blocks_fields_determined_by_image (d₁ d₂ : BlocksImg.Img) (w₁ : BlocksImg.WF d₁) (w₂ : BlocksImg.WF d₂)
    (h : BlocksImg.save d₁ = BlocksImg.save d₂) : d₁ = d₂ := by
  have h1 := BlocksImg.load_save d₁ w₁ []
  have h2 := BlocksImg.load_save d₂ w₂ []
  rw [h] at h1
  rw [h1] at h2
  simpa using h2

end CSD.Props.C09
