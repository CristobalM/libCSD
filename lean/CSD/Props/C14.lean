/-
  C14 — Queries are pure: no hidden state, caller's pattern left intact.

  Over a model of the query interface (`Model/Api`: operations on a dictionary and its open iterators) and over the
  translated `extractStringAndCompareRP`, the one routine that writes into the caller's pattern.
-/
import CSD.Model.Api
import CSD.Generated.RPCompare

namespace CSD.Props.C14
open CSD.Api

variable {D Q A Item : Type} (answer : D → Q → A) (items : D → Q → List Item)

/-- No API call changes the dictionary: like the next theorem, by the shape of `Api.step`; the correspondence
histories observe it on the real objects. -/
theorem dict_immutable (s : Sys D Item) (op : Op Q) : (step answer items s op).1.dict = s.dict := by
  cases op with
  | query q => rfl
  | openIter q => rfl
  | next k =>
    simp only [step]
    split <;> rfl
  | save => rfl

/-- The answer to a query depends on the dictionary and the query only, not on which calls came before nor on how
many iterators are open. -/
theorem answer_history_free (s : Sys D Item) (ops : List (Op Q)) (q : Q) :
    (step answer items (ops.foldl (fun st op => (step answer items st op).1) s) (.query q)).2
      = some (.inl (answer s.dict q)) := by
  have hd : (ops.foldl (fun st op => (step answer items st op).1) s).dict = s.dict := by
    induction ops generalizing s with
    | nil => rfl
    | cons op ops ih => simp only [List.foldl_cons]; rw [ih, dict_immutable]
  show some (Sum.inl (answer (ops.foldl (fun st op => (step answer items st op).1) s).dict q)) = _
  rw [hd]

/-- Advancing one iterator leaves every other open iterator untouched. -/
theorem iterators_independent (s : Sys D Item) (k j : Nat) (hjk : j ≠ k) :
    (step answer items s (.next k : Op Q)).1.iters[j]? = s.iters[j]? := by
  simp only [step]
  split
  · exact List.getElem?_set_ne (Ne.symm hjk)
  · rfl

/-- The caller's pattern buffer is restored on every path of the repaired `extractStringAndCompareRP` (match,
mismatch inside a rule, mismatch on a terminal, end of the symbols). -/
theorem pattern_restored (syms : List Sym) (buf : List UInt8) (strLen : Nat) (maxchar : UInt8)
    (hterm : buf[strLen]? = some 0) (c : Int) (buf' : List UInt8)
    (h : compareRP false syms buf strLen maxchar = some (c, buf')) : buf' = buf := by
  -- with `earlyReturn = false` every exit of the loop goes through the epilogue
  have hvia : ∀ (syms : List Sym) (b : List UInt8) (pos : Nat) (c : Int) (v : Bool),
      loopRP false syms b strLen pos = some (c, v) → v = true := by
    intro syms
    induction syms with
    | nil =>
      intro b pos c v h
      cases h
      rfl
    | cons sym rest ih =>
      intro b pos c v h
      unfold loopRP at h
      by_cases hp : pos > strLen
      · rw [if_pos hp] at h
        cases h
        rfl
      · rw [if_neg hp] at h
        -- a rule and a terminal alike: a read outside the buffer, a mismatch (out through the epilogue), or on
        cases sym
        all_goals
          dsimp only at h
          split at h
          · cases h
          · split at h
            · cases h
              rfl
            · exact ih _ _ _ _ h
  unfold compareRP at h
  simp only at h
  cases hl : loopRP false syms (buf.set strLen maxchar) strLen 0 with
  | none =>
    rw [hl] at h
    cases h
  | some r =>
    obtain ⟨c', via⟩ := r
    obtain rfl : via = true := hvia syms _ 0 c' via hl
    rw [hl] at h
    cases h
    obtain ⟨hlt, e⟩ := List.getElem?_eq_some_iff.mp hterm
    rw [if_pos rfl]
    show (buf.set strLen maxchar).set strLen 0 = buf
    rw [List.set_set, ← e, List.set_getElem_self]

/-- The original code (early `return` on a terminal mismatch) does not restore the buffer: after a failed comparison
the terminator holds `maxchar` (a defect listed in DESIGN.md §8, repaired in /repo; kept so that a return of that
behaviour is recognised). -/
theorem unrepaired_pattern_not_restored :
    ∃ syms buf strLen maxchar c buf', compareRP true syms buf strLen maxchar = some (c, buf') ∧
      buf[strLen]? = some 0 ∧ buf' ≠ buf :=
  ⟨[.term 0x62], [0x61, 0], 1, 0x7b, 1, [0x61, 0x7b], by decide, by decide, by decide⟩

/-- The model with `earlyReturn = false` is the code as it stands: no `return` between the sentinel write and the
restore, the restore precedes the final return, and no other routine of RePair.cpp writes through a `str` parameter
(`expandRule` writes its output buffer). -/
theorem model_is_current_code :
    CSD.Generated.rpEarlyReturns = 0 ∧ CSD.Generated.rpRestores = true ∧
    CSD.Generated.rpPatternWriters = ["RePair::expandRule", "RePair::extractStringAndCompareRP"] :=
  ⟨rfl, rfl, rfl⟩

example : compareRP false [.term 0x62] [0x61, 0] 1 0x7b = some (1, [0x61, 0]) := by decide

end CSD.Props.C14
