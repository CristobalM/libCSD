/-
  C10 — Worker pool: every queued task runs exactly once; shutdown always completes.

  About the transition-system model of `parallel/Worker.hpp` (`CSD/Model/Pool.lean`): any number of workers, any
  list of tasks, every interleaving of the producer (`add … add; stop; join`) with the workers, spurious wake-ups
  included.
-/
import CSD.Generated.PoolOps
import CSD.Lemmas.PoolTermination

namespace CSD.Props.C10
open CSD.Pool

theorem at_most_once {n : Nat} {tasks : List Nat} {s : State} (h : Reachable n tasks s) (x : Nat) :
    s.ran.count x ≤ tasks.count x :=
  Pool.at_most_once h x

/-- When `wait_workers` has returned, every task handed to the pool has been executed exactly once, for every worker
count ≥ 1 and every schedule. -/
theorem exactly_once_at_termination {n : Nat} {tasks : List Nat} {s : State} (hn : 0 < n)
    (h : Reachable n tasks s) (hd : s.prod = .done) (x : Nat) :
    s.ran.count x = tasks.count x :=
  Pool.exactly_once_at_termination hn h hd x

/-- No deadlock: as long as `wait_workers` has not returned, some thread of the program can move. -/
theorem no_deadlock {n : Nat} {tasks : List Nat} {s : State} (h : Reachable n tasks s)
    (hnd : s.prod ≠ .done) : ¬ Stuck step s :=
  Pool.no_deadlock h hnd

/-- The property is false of the pool as originally written (state changed without `shared_mutex`): a schedule after
which a worker sleeps forever with its stop flag set (a defect listed in DESIGN.md §8, repaired in /repo). Kept so
that a return of that behaviour is recognised. -/
theorem unrepaired_pool_can_hang :
    ∃ s, runSched stepUnlocked (init 1 []) lostWakeupSchedule = some s ∧
      Stuck stepUnlocked s ∧ s.prod = .join ∧ s.wpc 0 = .waiting ∧ s.stopped 0 = true :=
  Pool.lost_wakeup_unlocked

/-- The synchronisation skeleton extracted from `parallel/Worker.hpp` on this run is the one the transition system
was written against, and the raw members are touched only inside their guarded accessors (4 uses each:
declaration/constructor and the accessors). -/
theorem model_matches_source :
    CSD.Generated.poolOps = sourceShape ∧ CSD.Generated.rawQueueUses = 4 ∧ CSD.Generated.rawStoppedUses = 4 :=
  ⟨rfl, rfl, rfl⟩

/-- Every execution is finite: whatever the schedule, the producer and the `n` workers together perform at most
`K(3T+n+4) + (K+6)T + n(K+7)` steps (`T` tasks; `K n = 4n+1` of `Lemmas/PoolTermination`, more than a `notify_all`
can cost) plus four per spurious wake-up injected by the environment. -/
theorem every_execution_is_finite (n : Nat) (tasks : List Nat) (sched : List Tid) (s : State)
    (h : runSched step (init n tasks) sched = some s) :
    progSteps sched ≤ K n * (3 * tasks.length + n + 4) + (K n + 6) * tasks.length + n * (K n + 7) + 4 * spurSteps sched :=
  bounded_run n tasks sched s h

/-- A run that cannot be extended (no thread of the program can move) has finished the job: the producer has
returned from `wait_workers` and every task has run exactly once. With the bound above: every fair execution
terminates with the work done. -/
theorem maximal_run_completes (n : Nat) (hn : 0 < n) (tasks : List Nat) (sched : List Tid) (s : State)
    (h : runSched step (init n tasks) sched = some s) (hstuck : Stuck step s) :
    s.prod = .done ∧ ∀ x, s.ran.count x = tasks.count x :=
  maximal_run_is_complete n hn tasks sched s h hstuck

example : Reachable 2 [7, 8] (init 2 [7, 8]) ∧ (init 2 [7, 8]).prod ≠ .done :=
  ⟨Reachable.init, by decide⟩

end CSD.Props.C10
