/-
  C12 — Tuning parameters change space/time only, never answers.

  For the models: PFC under any two bucket sizes, RPFC over any two storing grammars, FMINDEX over any two suffix
  arrays and sampling steps, and these three with RPDAC against each other, answer alike (`Refines`); the hash table
  under any two sizes and HASHRPDACBlocks under any two cut sizes have the same members and round trip.
-/
import CSD.Model.SourceText
import CSD.Generated.Bodies
import CSD.Lemmas.FMIter
import CSD.Lemmas.HashBlocks
import CSD.Lemmas.PFCRange
import CSD.Lemmas.RPDACIter
import CSD.Lemmas.RPFCIter
import CSD.Lemmas.Refines

namespace CSD.Props.C12
open CSD CSD.PFC

/-- Two PFC dictionaries built from the same input with any two bucket sizes answer every `locate` alike… -/
theorem pfc_locate_param_independent (b₁ b₂ : Nat) (S : List Str) (hv : validDict S = true)
    (q : Str) (hq : nulFree q) :
    PFC.locate (PFC.build b₁ S) q = PFC.locate (PFC.build b₂ S) q :=
  (PFC.refines b₁ hv).agree (PFC.refines b₂ hv).toRefinesLocate q hq hq

/-- …and every `extract`, of any ID. -/
theorem pfc_extract_param_independent (b₁ b₂ : Nat) (S : List Str) (hv : validDict S = true) (i : Nat) :
    PFC.extract (PFC.build b₁ S) i = PFC.extract (PFC.build b₂ S) i :=
  (PFC.refinesExtract b₁ (validDict_nulFree hv)).agree (PFC.refinesExtract b₂ (validDict_nulFree hv)) i

/-- A bucket size below 2 is replaced by 2: the constructor produces the very same object. -/
theorem pfc_bucketsize_clamped (b : Nat) (hb : b < 2) (S : List Str) :
    PFC.build b S = PFC.build 2 S := by
  unfold PFC.build
  simp [hb]

example : PFC.build 0 [[0x61], [0x62]] = PFC.build 2 [[0x61], [0x62]] := pfc_bucketsize_clamped 0 (by decide) _

/-- The hash table size (the `overhead` parameter) does not change what the dictionary is: the same strings are
members and `extract ∘ locate` is the identity on them under both sizes. Only the ID assignment differs, as the
property allows for hash kinds. -/
theorem hash_overhead_independent (t1 t2 : Nat) (S : List Str) (hnd : S.Nodup)
    (h1 : S.length ≤ t1) (h2 : S.length ≤ t2)
    (a1 : Hash.accepted (Hash.build t1 S).tsize = true) (a2 : Hash.accepted (Hash.build t2 S).tsize = true)
    (q : Str) :
    (Hash.locate (Hash.build t1 S) q = 0 ↔ Hash.locate (Hash.build t2 S) q = 0) ∧
    (q ∈ S → Hash.extract (Hash.build t1 S) (Hash.locate (Hash.build t1 S) q) =
             Hash.extract (Hash.build t2 S) (Hash.locate (Hash.build t2 S) q)) := by
  have g1 := Hash.goodDict_build t1 S hnd h1 a1
  have g2 := Hash.goodDict_build t2 S hnd h2 a2
  exact round_trip_agree (S := S) (Hash.member_round_trip g1) (Hash.locate_absent g1) (Hash.member_round_trip g2)
    (Hash.locate_absent g2) q

/-- Nor does the cut size of HASHRPDACBlocks. -/
theorem blocks_cut_size_independent (c1 c2 : Nat) (f1 f2 : Nat → Nat) (S : List Str)
    (ok1 : Hash.PartsOK c1 f1 S) (ok2 : Hash.PartsOK c2 f2 S) (q : Str) :
    (Hash.locateBlocks (Hash.buildBlocks c1 f1 S) q = 0 ↔ Hash.locateBlocks (Hash.buildBlocks c2 f2 S) q = 0) ∧
    (q ∈ S → Hash.extractBlocks (Hash.buildBlocks c1 f1 S) (Hash.locateBlocks (Hash.buildBlocks c1 f1 S) q) =
             Hash.extractBlocks (Hash.buildBlocks c2 f2 S) (Hash.locateBlocks (Hash.buildBlocks c2 f2 S) q)) :=
  round_trip_agree (Hash.blocks_locate_member ok1) (Hash.blocks_locate_absent ok1)
    (Hash.blocks_locate_member ok2) (Hash.blocks_locate_absent ok2) q

/-- The models of this file were written against the current text of the C++ functions they mirror (DESIGN.md §4.1). -/
theorem models_match_source_text :
    Generated.body_PFC_ctor = SourceText.body_PFC_ctor ∧
    Generated.body_PFC_locate = SourceText.body_PFC_locate ∧
    Generated.body_PFC_locateBucket = SourceText.body_PFC_locateBucket ∧
    Generated.body_PFC_getHeader = SourceText.body_PFC_getHeader ∧
    Generated.body_PFC_decodeNextString = SourceText.body_PFC_decodeNextString ∧
    Generated.body_PFC_extract = SourceText.body_PFC_extract := ⟨rfl, rfl, rfl, rfl, rfl, rfl⟩

/-- Two RPFC objects that store the same dictionary, whatever their bucket sizes and whatever rules Re-Pair chose
for each, answer `locate` alike. -/
theorem rpfc_locate_independent_of_parameters {S : List Str} {d₁ d₂ : RPFC.D} (h₁ : RPFC.Stores S d₁) (h₂ : RPFC.Stores S d₂)
    (hv : validDict S = true) (q : Str) (hq : PFC.nulFree q) : RPFC.locate d₁ q = RPFC.locate d₂ q :=
  (RPFC.refines h₁ hv).agree (RPFC.refines h₂ hv).toRefinesLocate q hq hq

theorem rpfc_extract_independent_of_parameters {S : List Str} {d₁ d₂ : RPFC.D} (h₁ : RPFC.Stores S d₁) (h₂ : RPFC.Stores S d₂)
    (i : Nat) (h1 : 1 ≤ i) (h2 : i ≤ S.length) : RPFC.extract d₁ i = RPFC.extract d₂ i := by
  rw [RPFC.extract_stores h₁ i h1 h2, RPFC.extract_stores h₂ i h1 h2]

/-- Two FM-index dictionaries of the same strings, whatever suffix arrays, bitmap kinds (abstracted) and BWT sampling
steps they were built with, answer `locate` and `locateSubstr` alike. -/
theorem fmindex_answers_independent_of_parameters {S : List Str} {L₁ L₂ : List FM.Row} {d₁ d₂ : FM.Dict}
    (hv : validDict S = true) (h₁ : FM.DictOK S L₁ d₁) (h₂ : FM.DictOK S L₂ d₂)
    (s₁ : FM.BuiltS (FM.mkText S) L₁ d₁.ix) (s₂ : FM.BuiltS (FM.mkText S) L₂ d₂.ix)
    (q : Str) (hq : q.all validByte = true) (hne : q ≠ []) :
    d₁.locate q = d₂.locate q ∧ d₁.locateSubstr q = d₂.locateSubstr q :=
  ⟨(FM.refinesLocate hv h₁).agree (FM.refinesLocate hv h₂) q hq hq,
    by rw [FM.locateSubstr_spec hv h₁ s₁ q hq hne, FM.locateSubstr_spec hv h₂ s₂ q hq hne]⟩

/-- The four modelled order-preserving kinds agree on every ID: for any query over `0x02 .. 0xFE` they return the
rank of the member, or 0. -/
theorem ordered_kinds_agree {S : List Str} (hv : validDict S = true) (b : Nat)
    {dR : RPFC.D} (hR : RPFC.Stores S dR) {dD : RPDAC.D} (hD : RPDAC.Represents dD S)
    {L : List FM.Row} {dF : FM.Dict} (hF : FM.DictOK S L dF) (q : Str) (hq : q.all validByte = true) :
    PFC.locate (PFC.build b S) q = some (Spec.locate S q) ∧ RPFC.locate dR q = some (Spec.locate S q) ∧
    RPDAC.locate dD (RPDAC.bytesNat q) = some (Spec.locate S q) ∧ dF.locate q = some (Spec.locate S q) :=
  have hqn : PFC.nulFree q := PFC.nulFree_of_all hq
  ⟨(PFC.refines b hv).locate_eq q hqn, (RPFC.refines hR hv).locate_eq q hqn, (RPDAC.refines dD S hD hv).locate_eq q hqn,
    (FM.refinesLocate hv hF).locate_eq q hq⟩

/-- Nor do the strings of a prefix search depend on the representation: PFC under any two bucket sizes, RPFC and
RPDAC yield the members that start with the pattern, in order (NULL, or for RPDAC an empty iterator, when there is
none). -/
theorem ordered_kinds_agree_on_prefix_strings {S : List Str} (hv : validDict S = true) (b₁ b₂ : Nat)
    {dR : RPFC.D} (hR : RPFC.Stores S dR) {dD : RPDAC.D} (hD : RPDAC.Represents dD S) (hlen : S.length < 2 ^ 64)
    (q : Str) (hq : PFC.nulFree q) (hne : q ≠ []) :
    PFC.extractPrefix (PFC.build b₁ S) q = PFC.extractPrefix (PFC.build b₂ S) q ∧
    RPFC.extractPrefix dR q = PFC.extractPrefix (PFC.build b₁ S) q ∧
    RPDAC.extractPrefix dD (RPDAC.bytesNat q) = some ((S.filter (isPrefix q)).map RPDAC.bytesNat) ∧
    PFC.extractPrefix (PFC.build b₁ S) q = some (if S.filter (isPrefix q) = [] then none else some (S.filter (isPrefix q))) := by
  have hne' := validDict_ne hv
  have hn := validDict_nulFree hv
  have hs := validDict_sorted hv
  have h1 := PFC.extractPrefix_build b₁ S q hne' hn hs hq
  have h2 := PFC.extractPrefix_build b₂ S q hne' hn hs hq
  have h3 := RPFC.extractPrefix_stores hR hne' hn hs q hq
  exact ⟨by rw [h1, h2], by rw [h3, h1], RPDAC.extractPrefix_represents dD S hD hn hs hlen q hq hne, h1⟩

theorem table_scans_agree {S : List Str} (hv : validDict S = true) (b : Nat) {dR : RPFC.D} (hR : RPFC.Stores S dR) :
    PFC.table (PFC.build b S) = some S ∧ RPFC.extractTable dR = some S :=
  ⟨PFC.table_build b S (validDict_ne hv) (validDict_nulFree hv), RPFC.extractTable_stores hR (validDict_ne hv)⟩

/-- Two FM-index dictionaries over the same `S` return the same strings for `extractPrefix`, `extractSubstr` and
`extractTable`. -/
theorem fmindex_strings_independent_of_parameters {S : List Str} {L₁ L₂ : List FM.Row} {d₁ d₂ : FM.Dict}
    (hv : validDict S = true) (h₁ : FM.DictOK S L₁ d₁) (h₂ : FM.DictOK S L₂ d₂)
    (s₁ : FM.BuiltS (FM.mkText S) L₁ d₁.ix) (s₂ : FM.BuiltS (FM.mkText S) L₂ d₂.ix)
    (m₁ : ∀ s ∈ S, s.length < d₁.maxlength) (m₂ : ∀ s ∈ S, s.length < d₂.maxlength)
    (p : Str) (hp : p.all validByte = true) (hne : p ≠ []) :
    d₁.extractPrefix p = d₂.extractPrefix p ∧ d₁.extractSubstr p = d₂.extractSubstr p ∧
    d₁.extractTable = d₂.extractTable := by
  refine ⟨?_, ?_, ?_⟩
  · rw [FM.extractPrefix_spec hv h₁ m₁ p hp hne, FM.extractPrefix_spec hv h₂ m₂ p hp hne]
  · rw [FM.extractSubstr_spec hv h₁ s₁ m₁ p hp hne, FM.extractSubstr_spec hv h₂ s₂ m₂ p hp hne]
  · rw [FM.extractTable_spec hv h₁ m₁, FM.extractTable_spec hv h₂ m₂]

end CSD.Props.C12
