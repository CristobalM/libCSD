/-
  C08 — save is pure and deterministic; re-saving a loaded image reproduces it.

  On bytes for the models of the PFC, RPDAC and RPFC images (`save (load (save d)) = save d`), and over the
  extracted field sequences and tags for every kind; the other kinds are compared by the correspondence stream.
-/
import CSD.Model.SourceText
import CSD.Generated.Bodies
import CSD.Generated.Dispatch
import CSD.Generated.Fields
import CSD.Lemmas.PFCLoad
import CSD.Lemmas.RPDACImage
import CSD.Lemmas.RPFCImage
import CSD.Lemmas.Sorted

namespace CSD.Props.C08
open CSD CSD.Generated

/-- Re-saving a loaded PFC image reproduces it byte for byte. (That the image is a function of `(S, b)` alone is
built into the model: `save ∘ build` has no other input.) -/
theorem pfc_resave_identical (b : Nat) (S : List Str) (hv : validDict S = true) (hb : b < 2 ^ 32)
    (hn : S.length < 2 ^ 32) (hml : (PFC.build b S).maxlength < 2 ^ 32)
    (htl : (PFC.build b S).text.length < 2 ^ 64) :
    ∃ img, PFC.save (PFC.build b S) = some img ∧
      ∃ d', PFC.load img = some (d', []) ∧ PFC.save d' = some img := by
  have wf := PFC.build_wf b S (validDict_ne hv) hb hn hml htl
  obtain ⟨img, himg, _⟩ := PFC.load_save _ wf
  obtain ⟨d', hl, hs⟩ := PFC.resave _ wf img himg []
  exact ⟨img, himg, d', List.append_nil img ▸ hl, hs⟩

/- That two saves of one object give the same bytes, and that a save leaves the answers unchanged, are statements
about the mutable C++ object: in the model `save` is a function of an immutable value, so they hold by construction
and are not stated; the correspondence stream checks them on the real objects (`save2`, queries before/after). -/

/-- As far as the layout goes a loaded object saves the image it was loaded from: `load` restores every field `save`
writes, and the type tag written is the kind's own, never the load option (a defect listed in DESIGN.md §8,
repaired: `type` is assigned the kind constant only). -/
theorem resave_layout_and_tag (k : Kind) : saveFields = loadFields ∧ saveTags k = [k.tag] := by
  refine ⟨rfl, ?_⟩
  cases k <;> rfl

/-- Non-vacuity of `validDict`. (Byte equality fails on the real code for the recorded finding K5.) -/
example : validDict [[0x61], [0x62]] = true := by decide

/-- The models of this file were written against the current text of the C++ functions they mirror (DESIGN.md §4.1). -/
theorem models_match_source_text :
    Generated.body_PFC_save = SourceText.body_PFC_save ∧
    Generated.body_PFC_load = SourceText.body_PFC_load ∧
    Generated.body_LogSequence_load = SourceText.body_LogSequence_load ∧
    Generated.body_LogSequence_save = SourceText.body_LogSequence_save := ⟨rfl, rfl, rfl, rfl⟩

/-- Saving the RPDAC, and below the RPFC, dictionary obtained from `load` writes the image it was loaded from, byte
for byte. -/
theorem rpdac_resave_identical (d : RPDACImg.Img) (wf : RPDACImg.WF d) (henc : d.rp.encoding = 3 ∨ d.rp.encoding = 124) :
    (RPDACImg.load 3 124 (RPDACImg.save 3 d)).map (fun r => RPDACImg.save 3 r.1) = some (RPDACImg.save 3 d) := by
  have := RPDACImg.load_save 3 124 (by decide) d wf henc []
  rw [List.append_nil] at this
  rw [this]; rfl

theorem rpfc_resave_identical (d : RPFCImg.Img) (wf : RPFCImg.WF d) :
    (RPFCImg.load 214 (RPFCImg.save 214 d)).map (fun r => RPFCImg.save 214 r.1) = some (RPFCImg.save 214 d) := by
  have := RPFCImg.load_save 214 (by decide) d wf []
  rw [List.append_nil] at this
  rw [this]; rfl

end CSD.Props.C08
