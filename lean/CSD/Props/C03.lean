/-
  C03 — Order-preserving kinds assign IDs in lexicographic (unsigned byte) order.

  For the models of PFC, RPFC, RPDAC and FMINDEX: `locate` of the `i`-th smallest member is `i`, `extract(i)` is that
  member, and the table scans of PFC and RPFC are ascending.
-/
import CSD.Model.SourceText
import CSD.Generated.Bodies
import CSD.Lemmas.PFCIter
import CSD.Lemmas.RPFCIter
import CSD.Lemmas.Refines

namespace CSD.Props.C03
open CSD CSD.PFC

/-- `extract(i)` is the `i`-th smallest member: exactly the `i - 1` members before it are smaller. -/
theorem pfc_extract_is_ith_smallest (b : Nat) (S : List Str) (hv : validDict S = true)
    (i : Nat) (h1 : 1 ≤ i) (h2 : i ≤ S.length) :
    ∃ s, PFC.extract (PFC.build b S) i = some (some s) ∧
      (∀ j, j < i - 1 → ∀ hj : j < S.length, scmp S[j] s < 0) ∧
      (∀ j, i - 1 < j → ∀ hj : j < S.length, scmp s S[j] < 0) := by
  obtain ⟨k, rfl⟩ : ∃ k, i = k + 1 := ⟨i - 1, (Nat.sub_add_cancel h1).symm⟩
  exact ⟨S[k], (PFC.refinesExtract b (validDict_nulFree hv)).extract_in k h2,
    fun j hj _ => (validDict_sorted hv).getElem_lt hj h2, fun j hj hjl => (validDict_sorted hv).getElem_lt hj hjl⟩

theorem pfc_locate_monotone (b : Nat) (S : List Str) (hv : validDict S = true)
    (s t : Str) (hs : s ∈ S) (ht : t ∈ S) (hlt : scmp s t < 0) :
    ∃ i j, PFC.locate (PFC.build b S) s = some i ∧ PFC.locate (PFC.build b S) t = some j ∧ i < j :=
  (PFC.refines b hv).locate_mono s t hs ht hlt

/-- `locateRank(k) = k` and `extractRank(k) = extract(k)` in the code (`rank_ops_identity` of C16), so what is to be
shown of `extractRank(k)` is that `extract(k)` is the `k`-th member. -/
theorem pfc_rank_identity (b : Nat) (S : List Str) (hv : validDict S = true)
    (k : Nat) (h1 : 1 ≤ k) (h2 : k ≤ S.length) :
    PFC.extract (PFC.build b S) k = some (Spec.extract S k) :=
  (extract_build b S (validDict_nulFree hv) k h1 h2).trans (congrArg some (Spec.extract_pos h1).symm)

/-- RPDAC IDs are lexicographic ranks, whatever rules Re-Pair produced and however the strings were cut into symbols
(`Represents` is re-validated on the real object on every run). The `some`: every comparison reads inside the
query's buffer. -/
theorem rpdac_locate_is_rank (d : RPDAC.D) (S : List Str) (r : RPDAC.Represents d S) (hv : validDict S = true)
    (q : Str) (hq : nulFree q) : RPDAC.locate d (RPDAC.bytesNat q) = some (Spec.locate S q) :=
  (RPDAC.refines d S r hv).locate_eq q hq

/-- `extract(i)` is the `i`-th string of `S`, the `i`-th smallest when `S` is valid; IDs outside `1 … n` extract
nothing. -/
theorem rpdac_extract_is_ith (d : RPDAC.D) (S : List Str) (r : RPDAC.Represents d S) (i : Nat) :
    RPDAC.extract d i = if h : 1 ≤ i ∧ i ≤ S.length then some (RPDAC.bytesNat (S[i - 1]'(by omega))) else none :=
  RPDAC.extract_represents d S r i

/-- The comparison the search is built on is `strcmp` itself. -/
theorem rpdac_compare_is_strcmp (g : RePair.Grammar) (hwf : g.wf = true) (syms : List Nat)
    (hval : ∀ s ∈ syms, s < g.terminals + g.rules.length) (s q : Str)
    (hexp : g.expand syms = RPDAC.bytesNat s) (hs : nulFree s) (hq : nulFree q) :
    RPDAC.compareDAC g syms (RPDAC.bytesNat q) = some (scmp s q) :=
  RPDAC.compareDAC_eq g hwf syms hval s q hexp hs hq

/-- Non-vacuity: the grammar `99 → a b` and the sequences `[99]`, `[99, 99]` represent {ab, abab}. -/
example : RPDAC.Represents { g := { terminals := 99, rules := [(97, 98)] }, seqs := [[99], [99, 99]] }
    [[0x61, 0x62], [0x61, 0x62, 0x61, 0x62]] where
  wf := by decide
  len := rfl
  valid := by decide
  exp := by decide

example : validDict [[0x61], [0x62]] = true ∧ scmp [0x61] [0x62] < 0 := by decide

/-- The models of this file were written against the current text of the C++ functions they mirror (DESIGN.md §4.1). -/
theorem models_match_source_text :
    Generated.body_PFC_ctor = SourceText.body_PFC_ctor ∧
    Generated.body_PFC_locate = SourceText.body_PFC_locate ∧
    Generated.body_PFC_locateBucket = SourceText.body_PFC_locateBucket ∧
    Generated.body_PFC_getHeader = SourceText.body_PFC_getHeader ∧
    Generated.body_PFC_decodeNextString = SourceText.body_PFC_decodeNextString ∧
    Generated.body_PFC_extract = SourceText.body_PFC_extract ∧
    Generated.body_RPDAC_locate = SourceText.body_RPDAC_locate ∧
    Generated.body_RPDAC_extract = SourceText.body_RPDAC_extract ∧
    Generated.body_RePair_compareDAC = SourceText.body_RePair_compareDAC ∧
    Generated.body_RePair_compareRule = SourceText.body_RePair_compareRule ∧
    Generated.body_RePair_expandRule = SourceText.body_RePair_expandRule ∧
    Generated.body_DAC_VLS_access = SourceText.body_DAC_VLS_access ∧
    Generated.body_DAC_VLS_access_next = SourceText.body_DAC_VLS_access_next := ⟨rfl, rfl, rfl, rfl, rfl, rfl, rfl, rfl, rfl, rfl, rfl, rfl, rfl⟩

/-- `StringDictionaryFMINDEX::locate` of the `i`-th smallest member (0-based) is `i + 1`: the row of `\1 s \1` in the
suffix array is preceded by the rows `""`, `\0`, `\1\0` and by the separator suffixes of the smaller members. -/
theorem fmindex_locate_is_rank {S : List Str} {L : List FM.Row} {d : FM.Dict} (hv : validDict S = true)
    (hd : FM.DictOK S L d) (i : Nat) (hi : i < S.length) : d.locate S[i] = some (i + 1) :=
  (FM.refinesLocate hv hd).locate_rank i hi

example : validDict [[0x61, 0x62], [0x62]] = true ∧ ∃ L d, FM.DictOK [[0x61, 0x62], [0x62]] L d :=
  ⟨by decide, _, _, FM.dictOK_buildDict _ 2⟩

/-- `extract(i + 1)` is the `i`-th smallest member (0-based `i`). -/
theorem fmindex_extract_is_ith_smallest {S : List Str} {L : List FM.Row} {d : FM.Dict} (hv : validDict S = true)
    (hd : FM.DictOK S L d) (hml : ∀ s ∈ S, s.length < d.maxlength) (i : Nat) (hi : i < S.length) :
    d.extract (i + 1) = some (some (FM.symsOf S[i])) := FM.extract_spec hv hd hml i hi

/-- The FM-index models were written against the current text of the C++ functions they mirror. -/
theorem fm_models_match_source_text :
    Generated.body_SSA_locate_id = SourceText.body_SSA_locate_id ∧
    Generated.body_SSA_locateP = SourceText.body_SSA_locateP ∧
    Generated.body_SSA_locate = SourceText.body_SSA_locate ∧
    Generated.body_SSA_extract_id = SourceText.body_SSA_extract_id ∧
    Generated.body_SSA_build_index = SourceText.body_SSA_build_index ∧
    Generated.body_SSA_build_bwt = SourceText.body_SSA_build_bwt ∧
    Generated.body_FMINDEX_ctor = SourceText.body_FMINDEX_ctor ∧
    Generated.body_FMINDEX_locate = SourceText.body_FMINDEX_locate ∧
    Generated.body_FMINDEX_extract = SourceText.body_FMINDEX_extract ∧
    Generated.body_FMINDEX_locatePrefix = SourceText.body_FMINDEX_locatePrefix ∧
    Generated.body_FMINDEX_locateSubstr = SourceText.body_FMINDEX_locateSubstr ∧
    Generated.body_FMINDEX_build_ssa = SourceText.body_FMINDEX_build_ssa :=
  ⟨rfl, rfl, rfl, rfl, rfl, rfl, rfl, rfl, rfl, rfl, rfl, rfl⟩

/-- `extract(i)` of RPFC is the `i`-th string of `S`, the `i`-th smallest when `S` is valid. -/
theorem rpfc_extract_is_ith_smallest {S : List Str} {d : RPFC.D} (hst : RPFC.Stores S d) (i : Nat) (h1 : 1 ≤ i)
    (h2 : i ≤ S.length) : RPFC.extract d i = some (S[i - 1]?) := RPFC.extract_stores hst i h1 h2

theorem rpfc_locate_is_rank {S : List Str} {d : RPFC.D} (hst : RPFC.Stores S d) (hv : validDict S = true)
    (i : Nat) (hi : i < S.length) : RPFC.locate d S[i] = some (i + 1) :=
  (RPFC.refines hst hv).locate_rank i hi

/-- The RPFC models were written against the current text of the C++ functions they mirror. -/
theorem rpfc_models_match_source_text :
    Generated.body_RPFC_decodeString = SourceText.body_RPFC_decodeString ∧
    Generated.body_RPFC_decodeSymbol = SourceText.body_RPFC_decodeSymbol ∧
    Generated.body_RPFC_getHeader = SourceText.body_RPFC_getHeader ∧
    Generated.body_RPFC_locateBucket = SourceText.body_RPFC_locateBucket ∧
    Generated.body_RPFC_locate = SourceText.body_RPFC_locate ∧
    Generated.body_RPFC_extract = SourceText.body_RPFC_extract ∧
    Generated.body_RPFC_locatePrefix = SourceText.body_RPFC_locatePrefix ∧
    Generated.body_RPFC_locateBoundaryBuckets = SourceText.body_RPFC_locateBoundaryBuckets ∧
    Generated.body_RPFC_searchPrefix = SourceText.body_RPFC_searchPrefix ∧
    Generated.body_RPFC_searchDistinctPrefix = SourceText.body_RPFC_searchDistinctPrefix :=
  ⟨rfl, rfl, rfl, rfl, rfl, rfl, rfl, rfl, rfl, rfl⟩

/-- The table scans enumerate in unsigned byte order: PFC under any bucket size and RPFC over any storing grammar
scan to one and the same strictly ascending list, whose `k`-th string is the member with ID `k`. -/
theorem table_scans_ascending {S : List Str} (hv : validDict S = true) (b : Nat) {dR : RPFC.D} (hR : RPFC.Stores S dR) :
    ∃ T, PFC.table (PFC.build b S) = some T ∧ RPFC.extractTable dR = some T ∧ SortedLt T ∧
      ∀ k, 1 ≤ k → k ≤ S.length → PFC.extract (PFC.build b S) k = some T[k - 1]? ∧ RPFC.extract dR k = some T[k - 1]? :=
  ⟨S, PFC.table_build b S (validDict_ne hv) (validDict_nulFree hv), RPFC.extractTable_stores hR (validDict_ne hv),
    validDict_sorted hv, fun k h1 h2 =>
      ⟨PFC.extract_build b S (validDict_nulFree hv) k h1 h2, RPFC.extract_stores hR k h1 h2⟩⟩

end CSD.Props.C03
