/-
  C06 — Persistence round trip: a saved image reloads to an equivalent dictionary.

  Over fragments regenerated from the sources on every run: every `load` reads exactly the field sequence the
  matching `save` writes (order, types, count expressions, nested classes), for the 12 dictionary classes with their
  own fields and the 7 containers under them; the generic loader selects the kind the image's tag names, and `save`
  writes that tag. On bytes, for the models of the PFC, RPDAC, RPFC, HASHRPDAC and HASHRPDACBlocks images and of
  LogSequence: `load (save d ++ rest) = (d, rest)`. For the other kinds the correspondence stream compares the
  answers of the reloaded object, through both loaders, with a trailer after the image and for a second generation.
-/
import CSD.Model.SourceText
import CSD.Generated.Bodies
import CSD.Generated.Dispatch
import CSD.Generated.Fields
import CSD.Lemmas.BlocksImage
import CSD.Lemmas.PFCLoad
import CSD.Lemmas.RPFCImage
import CSD.Lemmas.Sorted

namespace CSD.Props.C06
open CSD.Generated

/-- `load` reads what `save` wrote, field by field, for every class with a save/load pair. -/
theorem load_reads_what_save_writes : saveFields = loadFields := rfl

/-- A class dropping out of the extraction would make the previous theorem vacuous for it. -/
theorem all_classes_extracted :
    saveFields.map (·.1) = ["PFC", "RPFC", "HTFC", "HHTFC", "RPHTFC", "RPDAC", "HASHHF", "HASHRPF",
      "HASHUFFDAC", "HASHRPDAC", "BLOCKS", "FMINDEX", "LogSequence", "DAC_VLS", "DAC_BVLS", "HashDAC",
      "Hash", "RePairNoSeq", "BitSequenceRG"] := rfl

/-- An image starts with the tag, the element count and the maximal length (Blocks: tag, maximal length, cut size,
element count): what `numElements` and `maxLength` of a reloaded object are read from. -/
theorem header_fields :
    (∀ k ∈ ["PFC", "RPFC", "HTFC", "HHTFC", "RPHTFC", "RPDAC", "HASHHF", "HASHRPF", "HASHUFFDAC", "HASHRPDAC", "FMINDEX"],
      ((saveFields.lookup k).getD []).take 3 = ["val uint32_t TAG", "val uint64_t elements", "val uint32_t maxlength"]) ∧
    ((saveFields.lookup "BLOCKS").getD []).take 4 =
      ["val uint32_t TAG", "val uint32_t maxlength", "val uint64_t cut_size", "val uint64_t strings_qty"] := by
  simp only [List.forall_mem_cons, List.not_mem_nil, false_imp_iff, implies_true, and_true]
  -- `rfl` for each key: `decide` would compare the strings found with the expected ones through their UTF-8 bytes
  exact ⟨⟨rfl, rfl, rfl, rfl, rfl, rfl, rfl, rfl, rfl, rfl, rfl⟩, rfl⟩

/-- The generic loader dispatches every kind's tag to that kind's loader, which accepts it, and `save` writes
exactly that tag. -/
theorem generic_loader_round_trip (k : Kind) :
    dispatch k.tag = some k ∧ loaderGuard k = k.tag ∧ saveTags k = [k.tag] := by
  cases k <;> exact ⟨rfl, rfl, rfl⟩

/-- The byte-level reader and writer of the PFC model follow the field sequence extracted from
`StringDictionaryPFC::save/load` and `LogSequence::save/LogSequence(istream&)`. -/
theorem pfc_model_layout_matches_source :
    saveFields.lookup "PFC" = some PFC.layout ∧ loadFields.lookup "PFC" = some PFC.layout ∧
    saveFields.lookup "LogSequence" = some PFC.logSeqLayout ∧
    loadFields.lookup "LogSequence" = some PFC.logSeqLayout := ⟨rfl, rfl, rfl, rfl⟩

/-- A PFC image reloads to the same object and is self-delimiting: for every valid dictionary whose sizes fit the
32/64-bit fields of the format, `save` succeeds and `load` of the image followed by any bytes returns the object that
was saved and leaves those bytes. -/
theorem pfc_image_reloads (b : Nat) (S : List Str) (hv : validDict S = true) (hb : b < 2 ^ 32)
    (hn : S.length < 2 ^ 32) (hml : (PFC.build b S).maxlength < 2 ^ 32)
    (htl : (PFC.build b S).text.length < 2 ^ 64) :
    ∃ img, PFC.save (PFC.build b S) = some img ∧
      ∀ rest, PFC.load (img ++ rest) = some (PFC.build b S, rest) :=
  PFC.load_save _ (PFC.build_wf b S (validDict_ne hv) hb hn hml htl)

/-- Second generation: the reloaded object saves to the same bytes, so the cycle can repeat. -/
theorem pfc_second_generation (b : Nat) (S : List Str) (hv : validDict S = true) (hb : b < 2 ^ 32)
    (hn : S.length < 2 ^ 32) (hml : (PFC.build b S).maxlength < 2 ^ 32)
    (htl : (PFC.build b S).text.length < 2 ^ 64) (img : List UInt8)
    (h : PFC.save (PFC.build b S) = some img) (rest : List UInt8) :
    ∃ d', PFC.load (img ++ rest) = some (d', rest) ∧ PFC.save d' = some img ∧
      ∀ rest', PFC.load (img ++ rest') = some (d', rest') := by
  obtain ⟨img', himg, hl⟩ := PFC.load_save _ (PFC.build_wf b S (validDict_ne hv) hb hn hml htl)
  rw [h] at himg; cases himg
  exact ⟨_, hl rest, h, hl⟩

/-- A LogSequence image reloads to the same sequence (any width 1..255 stored, any length). -/
theorem logseq_image_reloads (s : LogSeq.T) (hb : s.numbits < 256) (hn : s.numentries < 2 ^ 64)
    (hd : s.data.length = LogSeq.numWords s.numbits s.numentries) (rest : List UInt8) :
    LogSeq.load (s.save ++ rest) = some (s, rest) :=
  LogSeq.load_save s hb hn hd rest

/-- A foreign tag is refused before anything else is read. -/
theorem pfc_loader_refuses_foreign_tag (tag : Nat) (ht : tag < 2 ^ 32) (hne : tag ≠ 211) (rest : List UInt8) :
    PFC.load (LogSeq.leBytes tag 4 ++ rest) = none := by
  unfold PFC.load
  rw [LogSeq.readLE_leBytes 4 ht]
  simp [hne]

example : (saveFields.lookup "PFC").isSome = true := by decide

/-- The models of this file were written against the current text of the C++ functions they mirror (DESIGN.md §4.1). -/
theorem models_match_source_text :
    Generated.body_PFC_save = SourceText.body_PFC_save ∧
    Generated.body_PFC_load = SourceText.body_PFC_load ∧
    Generated.body_LogSequence_load = SourceText.body_LogSequence_load ∧
    Generated.body_LogSequence_save = SourceText.body_LogSequence_save := ⟨rfl, rfl, rfl, rfl⟩

/- The tag literals here and in C08 (211 inside `PFC.load`, 3, 124, 214) are `Kind.PFC/RPDAC/HASHRPDAC/RPFC.tag` of
`Generated/Dispatch.lean` (utils/Utils.h). No theorem ties them to the generated constants: a changed tag shows when
the driver parses real images with these loaders. -/

/-- `StringDictionaryRPDAC::load (save d ++ rest) = (d, rest)` on bytes: type tag, counters, the grammar
(`RePair::save(out, encoding)` / `RePair::load`, the rule table as a LogSequence image) and the sequences as a
DAC_VLS image with its BitSequenceRG bitmap. -/
theorem rpdac_image_reloads (d : RPDACImg.Img) (wf : RPDACImg.WF d) (henc : d.rp.encoding = 3 ∨ d.rp.encoding = 124)
    (rest : List UInt8) : RPDACImg.load 3 124 (RPDACImg.save 3 d ++ rest) = some (d, rest) :=
  RPDACImg.load_save 3 124 (by decide) d wf henc rest

/-- The RPDAC loader refuses every other type tag. -/
theorem rpdac_loader_refuses_foreign (t : Nat) (ht : t < 2 ^ 32) (hne : t ≠ 3) (rest : List UInt8) :
    RPDACImg.load 3 124 (LogSeq.leBytes t 4 ++ rest) = none := RPDACImg.load_foreign 3 124 t ht hne rest

/-- `StringDictionaryRPFC::load (save d ++ rest) = (d, rest)` on bytes: tag, counters, the text (plain headers and
bit-packed Re-Pair symbols), the positional index, the symbol width and the grammar header (`RePair::save(out)` /
`loadNoSeq`). The driver parses every real RPFC image with this loader and lets `RPFCImg.toD` cut the buckets and
unpack the symbols: the result must be the object the query theorems are applied to. -/
theorem rpfc_image_reloads (d : RPFCImg.Img) (wf : RPFCImg.WF d) (rest : List UInt8) :
    RPFCImg.load 214 (RPFCImg.save 214 d ++ rest) = some (d, rest) :=
  RPFCImg.load_save 214 (by decide) d wf rest

/-- `rpfc_image_reloads` spelled out for the queries: the reloaded image is the saved one, so what `toD` cuts out of
it, and with that `locate`, `extract` and `locatePrefix`, are the same. -/
theorem rpfc_reloaded_answers_the_same (d : RPFCImg.Img) (wf : RPFCImg.WF d) (rest : List UInt8) :
    ∃ d', RPFCImg.load 214 (RPFCImg.save 214 d ++ rest) = some (d', rest) ∧ RPFCImg.toD d' = RPFCImg.toD d ∧
      (∀ D, RPFCImg.toD d = some D → ∀ D', RPFCImg.toD d' = some D' →
        (∀ q, RPFC.locate D' q = RPFC.locate D q) ∧ (∀ i, RPFC.extract D' i = RPFC.extract D i) ∧
        (∀ q, RPFC.locatePrefix D' q = RPFC.locatePrefix D q)) := by
  refine ⟨d, RPFCImg.load_save 214 (by decide) d wf rest, rfl, ?_⟩
  intro D hD D' hD'
  rw [hD] at hD'
  cases hD'
  exact ⟨fun _ => rfl, fun _ => rfl, fun _ => rfl⟩

/-- The RPFC loader refuses every other type tag. -/
theorem rpfc_loader_refuses_foreign (t : Nat) (ht : t < 2 ^ 32) (hne : t ≠ 214) (rest : List UInt8) :
    RPFCImg.load 214 (LogSeq.leBytes t 4 ++ rest) = none := RPFCImg.load_foreign 214 t ht hne rest

/-- `StringDictionaryHASHRPDAC::load (save d ++ rest) = (d, rest)` on bytes: tag, counters, the grammar with its DAC
sequences, and the hash table header of `HashDAC::save` (`tsize`, `n`, the occupancy bitmap as a BitSequenceRG
image). -/
theorem hashrpdac_image_reloads (d : HRPDACImg.Img) (wf : HRPDACImg.WF d) (rest : List UInt8) :
    HRPDACImg.load (HRPDACImg.save d ++ rest) = some (d, rest) := HRPDACImg.load_save d wf rest

/-- `StringDictionaryHASHRPDACBlocks::load (save d ++ rest) = (d, rest)` on bytes: header, the first string and
the starting ID of every part, and every part as a whole HASHRPDAC image. -/
theorem blocks_image_reloads (d : BlocksImg.Img) (wf : BlocksImg.WF d) (rest : List UInt8) :
    BlocksImg.load (BlocksImg.save d ++ rest) = some (d, rest) := BlocksImg.load_save d wf rest

end CSD.Props.C06
