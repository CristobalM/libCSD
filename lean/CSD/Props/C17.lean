/-
  C17 — Integer containers and codecs round-trip every value.

  For the models of VByte, LogSequence (fields, constructor, image), DAC_VLS (access, image) and the symbol packing
  of RPFC.
-/
import CSD.Model.SourceText
import CSD.Generated.Bodies
import CSD.Lemmas.VByte
import CSD.Lemmas.DAC
import CSD.Lemmas.RPDACImage
import CSD.Lemmas.RPFCImage

namespace CSD.Props.C17
open CSD

/-- VByte: decoding what was encoded gives the value back and consumes exactly the bytes that were written, whatever
follows in the buffer. -/
theorem vbyte_roundtrip (c : Nat) (rest : List UInt8) :
    VByte.decode (VByte.encode c ++ rest) = some (c, (VByte.encode c).length) :=
  VByte.decode_encode c rest

/-- The machine-level decode (32-bit accumulator, checked shift) returns the same for every 32-bit value: no wrap, no
shift ≥ 32. -/
theorem vbyte_roundtrip_32 (c : Nat) (h : c < 2 ^ 32) (rest : List UInt8) :
    VByte.decode32 (VByte.encode c ++ rest) = .ok c (VByte.encode c).length :=
  VByte.decode32_encode c h rest

theorem vbyte_length_le_five (c : Nat) (h : c < 2 ^ 32) : (VByte.encode c).length ≤ 5 :=
  VByte.encode_length_le_five c h

/-- Non-vacuity: a value that needs three bytes, followed by an unrelated byte. -/
example : VByte.decode32 (VByte.encode 16384 ++ [77]) = .ok 16384 (VByte.encode 16384).length :=
  vbyte_roundtrip_32 16384 (by decide) [77]

/-- Every position returns the value last stored there, for every field width 1..64, fields that straddle a word
boundary included, provided the value fits the width (`hv`; the C++ `setField` throws otherwise) and the field lies
inside the array (`hb`). -/
theorem logseq_get_after_set (d d' : List LogSeq.Word) (w idx : Nat) (v : LogSeq.Word)
    (hw1 : 1 ≤ w) (hw : w ≤ 64) (hb : idx * w + w ≤ 64 * d.length)
    (hv : ∀ t, w ≤ t → v.getLsbD t = false)
    (hs : LogSeq.setField d w idx v = some d') : LogSeq.getField d' w idx = some v :=
  LogSeq.get_set_same d d' w idx v hw1 hw hb hv hs

/-- …without disturbing any neighbour: every other field reads as before. -/
theorem logseq_set_leaves_others (d d' : List LogSeq.Word) (w idx j : Nat) (v : LogSeq.Word)
    (hw1 : 1 ≤ w) (hw : w ≤ 64) (hb : idx * w + w ≤ 64 * d.length) (hbj : j * w + w ≤ 64 * d.length)
    (hv : ∀ t, w ≤ t → v.getLsbD t = false) (hne : idx ≠ j)
    (hs : LogSeq.setField d w idx v = some d') : LogSeq.getField d' w j = LogSeq.getField d w j :=
  LogSeq.get_set_other d d' w idx j v hw1 hw hb hbj hv hne hs

/-- A write inside the allocated array succeeds: no word out of bounds. -/
theorem logseq_set_in_bounds (d : List LogSeq.Word) (w idx : Nat) (v : LogSeq.Word)
    (hw1 : 1 ≤ w) (hw : w ≤ 64) (hb : idx * w + w ≤ 64 * d.length)
    (hv : ∀ t, w ≤ t → v.getLsbD t = false) :
    ∃ d', LogSeq.setField d w idx v = some d' ∧ d'.length = d.length := by
  obtain ⟨d', h1, h2, _⟩ := LogSeq.setField_spec d w idx v hw1 hw hb hv
  exact ⟨d', h1, h2⟩

/-- The constructor allocates enough words for every index below `numentries`. -/
theorem logseq_alloc_enough (w n idx : Nat) (h : idx < n) :
    idx * w + w ≤ 64 * (LogSeq.mk w n).data.length := by
  simp only [LogSeq.mk, List.length_replicate]
  exact LogSeq.numWords_enough w n idx h

/-- The repaired mask and the x86 behaviour of the unrepaired `~(~0 << bitsField)` differ exactly at width 64, where
the latter is an empty mask, so that `setField` OR-ed into the value already there (a defect listed in DESIGN.md §8,
fixed in /repo). -/
theorem logseq_unfixed_mask_differs : LogSeq.lowMaskX86 64 ≠ LogSeq.lowMask 64 ∧
    ∀ w, w < 64 → LogSeq.lowMaskX86 w = LogSeq.lowMask w := by
  constructor
  · decide
  · intro w hw
    simp [LogSeq.lowMaskX86, LogSeq.lowMask, Nat.mod_eq_of_lt hw]

/-- `LogSequence(vector, w)`, what every dictionary's positional index is built with: the constructor succeeds
whenever the values fit in `w` bits, and every field reads back its value. -/
theorem logseq_vector_constructor (vs : List Nat) (w : Nat) (hw1 : 1 ≤ w) (hw : w ≤ 64)
    (hv : ∀ v ∈ vs, v ≤ LogSeq.maxVal w) :
    ∃ s, LogSeq.ofList vs w = some s ∧ s.numentries = vs.length ∧
      ∀ j (hj : j < vs.length), s.get j = some (BitVec.ofNat 64 vs[j]) := by
  obtain ⟨s, hs, f⟩ := LogSeq.ofList_spec vs w hw1 hw hv
  exact ⟨s, hs, f.ne, fun j hj => f.got j hj hj⟩

/-- LogSequence on bytes: `load ∘ save = id`, consuming exactly the image. -/
theorem logseq_load_save (s : LogSeq.T) (hb : s.numbits < 256) (hn : s.numentries < 2 ^ 64)
    (hd : s.data.length = LogSeq.numWords s.numbits s.numentries) (rest : List UInt8) :
    LogSeq.load (s.save ++ rest) = some (s, rest) :=
  LogSeq.load_save s hb hn hd rest

/-- DAC_VLS direct access: for every list of non-empty sequences, `access(i+1)` walks the levels by rank arithmetic
and returns the `i`-th sequence, every array read in bounds. The correspondence compares the layout `DAC.build`
produces (levels, `levelsIndex`, continuation bitmap with its final mark, `rankLevels`) with the real object's. -/
theorem dac_access_returns_sequence (L : List (List Nat)) (hall : ∀ s ∈ L, s ≠ [])
    (i : Nat) (hi : i < L.length) : DAC.access (DAC.build L) (i + 1) = some L[i] :=
  DAC.access_build L i hi hall

/-- Non-vacuity of the DAC hypotheses, and what the theorem says on a ragged list. -/
example : (∀ s ∈ ([[5], [7, 8, 9], [1, 2]] : List (List Nat)), s ≠ []) ∧
    DAC.access (DAC.build [[5], [7, 8, 9], [1, 2]]) 2 = some [7, 8, 9] := by decide

/-- Non-vacuity: a 50-bit field at index 1 straddles words 0 and 1. -/
example : (1 * 50 + 50 ≤ 64 * (LogSeq.mk 50 2).data.length) ∧ (1 * 50) % 64 + 50 > 64 := by decide

/-- A DAC_VLS survives save/load unchanged: scalar fields, level index, packed level words, rank samples and the
continuation bitmap (a BitSequenceRG image: words and `BuildRank` counters). -/
theorem dac_image_reloads (d : DACImg.Img) (wf : DACImg.WF d) (rest : List UInt8) :
    DACImg.loadImg (DACImg.saveImg d ++ rest) = some (d, rest) :=
  DACImg.loadImg_saveImg d wf rest

/-- Non-vacuity: a one-level DAC over two sequences with a one-bit bitmap. -/
def dacExample : DACImg.Img := {
  tamCode := 16, listLength := 2, nLevels := 1, baseBits := 8, levelsIndex := [0, 2], levels := [513],
  rankLevels := [0], bs := { n := 1, factor := 20, data := [1], Rs := [0] } }

example : DACImg.loadImg (DACImg.saveImg dacExample ++ [9]) = some (dacExample, [9]) := by decide

/-- The models of this file were written against the current text of the C++ functions they mirror (DESIGN.md §4.1). -/
theorem models_match_source_text :
    Generated.body_VByte_encode = SourceText.body_VByte_encode ∧
    Generated.body_VByte_decode = SourceText.body_VByte_decode ∧
    Generated.body_LogSequence_get_field = SourceText.body_LogSequence_get_field ∧
    Generated.body_LogSequence_set_field = SourceText.body_LogSequence_set_field ∧
    Generated.body_LogSequence_vector_ctor = SourceText.body_LogSequence_vector_ctor ∧
    Generated.body_LogSequence_load = SourceText.body_LogSequence_load ∧
    Generated.body_LogSequence_save = SourceText.body_LogSequence_save ∧
    Generated.body_DAC_VLS_ctor = SourceText.body_DAC_VLS_ctor ∧
    Generated.body_DAC_VLS_access = SourceText.body_DAC_VLS_access ∧
    Generated.body_DAC_VLS_access_next = SourceText.body_DAC_VLS_access_next ∧
    Generated.body_DAC_VLS_save = SourceText.body_DAC_VLS_save ∧
    Generated.body_DAC_VLS_load = SourceText.body_DAC_VLS_load ∧
    Generated.body_RG_save = SourceText.body_RG_save ∧
    Generated.body_RG_load = SourceText.body_RG_load := ⟨rfl, rfl, rfl, rfl, rfl, rfl, rfl, rfl, rfl, rfl, rfl, rfl, rfl, rfl⟩

/-- The `bitsrp`-wide fields of RPFC: reading consecutive fields most significant bit first (`decodeSymbol`; so
`RPFCImg.unpack` derives the symbol streams from a saved image) returns every symbol that was packed, whatever
padding of fewer than `w` bits follows. -/
theorem rpfc_unpack_inverts_pack (w : Nat) (hw : 0 < w) (syms : List Nat) (pad : List Bool)
    (hx : ∀ x ∈ syms, x < 2 ^ w) (hp : pad.length < w) :
    RPFCImg.unpack w (syms.length + 1) (RPFCImg.pack w syms ++ pad) = syms :=
  RPFCImg.unpack_pack w hw syms pad (syms.length + 1) hx hp (Nat.lt_succ_self _)

end CSD.Props.C17
