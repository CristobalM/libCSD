/-
  C07 — Memory safety on valid input across build, query, save, load and destroy.

  What a model can carry is the index arithmetic: the models read through `Option`-valued accessors (`none` =
  outside the allocation), so "the result is `some`" is "every read was in bounds"; and the growth checks of the
  constructors are arithmetic facts. The C++ runtime (object lifetime, allocator, the unmodelled components) is
  monitored by ASan/UBSan on every correspondence run of every property (partial).
-/
import CSD.Model.SourceText
import CSD.Generated.Bodies
import CSD.Lemmas.DAC
import CSD.Lemmas.FMIter
import CSD.Lemmas.HashProbe
import CSD.Lemmas.IdIter
import CSD.Lemmas.LogSeq
import CSD.Lemmas.PFCRange
import CSD.Lemmas.RPFCIter
import CSD.Lemmas.Refines

namespace CSD.Props.C07
open CSD CSD.PFC

/-- Every PFC query on a valid dictionary stays inside the text: `locate` of any NUL-free query, `extract` of any ID
and the table scan return `some`. -/
theorem pfc_reads_in_bounds (b : Nat) (S : List Str) (hv : validDict S = true) :
    (∀ q, nulFree q → (PFC.locate (PFC.build b S) q).isSome) ∧
    (∀ i, (PFC.extract (PFC.build b S) i).isSome) ∧
    (PFC.table (PFC.build b S)).isSome :=
  ⟨fun q hq => by rw [(PFC.refines b hv).locate_eq q hq]; rfl,
    fun i => by rw [(PFC.refinesExtract b (validDict_nulFree hv)).extract_eq i]; rfl,
    by rw [table_build b S (validDict_ne hv) (validDict_nulFree hv)]; rfl⟩

/-- A crude bound (a byte carries 7 bits), enough for the growth check below. -/
theorem vbyte_length_le (c : Nat) : (VByte.encode c).length ≤ c + 1 :=
  have h : c < 2 ^ (7 * (c + 1)) :=
    Nat.lt_of_lt_of_le Nat.lt_two_pow_self (Nat.pow_le_pow_right (by decide) (by omega))
  VByte.encode_length_le c (c + 1) (Nat.succ_pos c) h

/-- Buffer growth keeps pace: an internal string takes at most `len + 2` bytes (VByte of the lcp, the suffix, the
terminator), within the `2·len + 2` the repaired growth check reserves. -/
theorem pfc_bytes_per_string (prev cur : Str) :
    (encInternal prev cur).length ≤ cur.length + 2 ∧ (encInternal prev cur).length ≤ 2 * cur.length + 2 := by
  have h1 := vbyte_length_le (lcp prev cur)
  have h2 := lcp_le_right prev cur
  simp only [encInternal, List.length_append, List.length_drop, List.length_cons, List.length_nil]
  omega

/-- The original check reserved `2·len`: one byte short for a one-character string (a defect listed in DESIGN.md §8,
repaired in /repo). -/
theorem pfc_unrepaired_check_too_small : ∃ prev cur : Str, (encInternal prev cur).length > 2 * cur.length :=
  ⟨[0x61], [0x62], by
    have : VByte.encode 0 = [128] := by rw [VByte.encode]; simp
    simp [encInternal, lcp, this]⟩

/-- LogSequence touches no word outside its allocation for an index below `numentries`, and the ID iterator with
duplicates never reads past its sentinel. -/
theorem containers_in_bounds :
    (∀ w n idx, idx < n → idx * w + w ≤ 64 * (LogSeq.mk w n).data.length) ∧
    (∀ occs : List Nat, (∀ v ∈ occs, v ≠ 0) →
      (Dups.It.drain (occs.length + 1) ⟨occs ++ [0], 0, occs.length⟩).isSome) := by
  refine ⟨?_, ?_⟩
  · intro w n idx h
    simp only [LogSeq.mk, List.length_replicate]
    exact LogSeq.numWords_enough w n idx h
  · intro occs h; rw [Dups.drain_all occs h]; rfl

example : validDict [[0x61], [0x62]] = true := by decide

/-- Hash kinds: every probe of `insert` / `locate` addresses a cell of the table. -/
theorem hash_probe_in_bounds (m : Nat) (hm : 0 < m) (w : Str) (i : Nat) : Hash.pr m w i < m :=
  Hash.pr_lt m hm w i

/-- DAC_VLS: `access` of every stored position reads only inside `levels`, the bitmap, `levelsIndex` and
`rankLevels`. -/
theorem dac_access_in_bounds (L : List (List Nat)) (hall : ∀ s ∈ L, s ≠ []) (i : Nat) (hi : i < L.length) :
    (DAC.access (DAC.build L) (i + 1)).isSome = true := by
  rw [DAC.access_build L i hi hall]; rfl

/-- Re-Pair comparisons (`extractStringAndCompareDAC`, `extractPrefixAndCompareDAC`): every read of the caller's
pattern stays inside `pattern ++ NUL`. -/
theorem rpdac_compare_in_bounds (g : RePair.Grammar) (hwf : g.wf = true) (syms : List Nat)
    (hval : ∀ s ∈ syms, s < g.terminals + g.rules.length) (s q : Str)
    (hexp : g.expand syms = RPDAC.bytesNat s) (hs : PFC.nulFree s) (hq : PFC.nulFree q) :
    (RPDAC.compareDAC g syms (RPDAC.bytesNat q)).isSome = true ∧
    (q ≠ [] → (RPDAC.comparePrefixDAC g syms (RPDAC.bytesNat q)).isSome = true) := by
  constructor
  · rw [RPDAC.compareDAC_eq g hwf syms hval s q hexp hs hq]; rfl
  · intro hne
    rw [RPDAC.comparePrefixDAC_eq g hwf syms hval s q hexp hs hq hne]; rfl

/-- The models of this file were written against the current text of the C++ functions they mirror (DESIGN.md §4.1). -/
theorem models_match_source_text :
    Generated.body_PFC_ctor = SourceText.body_PFC_ctor ∧
    Generated.body_PFC_locate = SourceText.body_PFC_locate ∧
    Generated.body_PFC_locateBucket = SourceText.body_PFC_locateBucket ∧
    Generated.body_PFC_getHeader = SourceText.body_PFC_getHeader ∧
    Generated.body_PFC_decodeNextString = SourceText.body_PFC_decodeNextString ∧
    Generated.body_PFC_extract = SourceText.body_PFC_extract ∧
    Generated.body_LogSequence_get_field = SourceText.body_LogSequence_get_field ∧
    Generated.body_LogSequence_set_field = SourceText.body_LogSequence_set_field ∧
    Generated.body_LogSequence_vector_ctor = SourceText.body_LogSequence_vector_ctor := ⟨rfl, rfl, rfl, rfl, rfl, rfl, rfl, rfl, rfl⟩

/-- The string iterators stay inside the text, the symbol stream, the result array and the index: the range scans of
PFC and RPFC, opened at any in-bucket offset and running across bucket boundaries, and the duplicate-skipping
iterator of FMINDEX `extractSubstr`. -/
theorem string_iterators_in_bounds {S : List Str} (hv : validDict S = true) (b : Nat)
    {dR : RPFC.D} (hR : RPFC.Stores S dR)
    {L : List FM.Row} {dF : FM.Dict} (hF : FM.DictOK S L dF) (hFS : FM.BuiltS (FM.mkText S) L dF.ix)
    (hml : ∀ s ∈ S, s.length < dF.maxlength)
    (left right : Nat) (h1 : 1 ≤ left) (h2 : left ≤ right) (h3 : right ≤ S.length)
    (p : Str) (hp : p.all validByte = true) (hne : p ≠ []) :
    (PFC.scanRange (PFC.build b S) left right).isSome ∧ (RPFC.scanRange dR left right).isSome ∧
    (dF.extractSubstr p).isSome :=
  ⟨by rw [PFC.scanRange_build b S (validDict_nulFree hv) left right h1 h2 h3]; rfl,
    by rw [RPFC.scanRange_stores hR left right h1 h2 h3]; rfl,
    by rw [FM.extractSubstr_spec hv hF hFS hml p hp hne]; rfl⟩

end CSD.Props.C07
