/-
  C18 — Codes are prefix-free, Hu-Tucker keeps order, table decoding inverts encoding.

  For every code that is the set of root-to-leaf paths of a binary tree, which is what both `Huffman` and `HuTucker`
  produce: the `codes` stream rebuilds the tree from every exported table in the Lean driver (for Hu-Tucker with the
  leaves in alphabetical order).

  The chunked decoding table: `processChunk`/`getSubstring` (`CSD.ChunkDec`) decode what the code tree decodes, for
  every table whose entries are sound (`TableOK`). The builder (which chunks get multi-symbol entries) is not
  modelled; the `chunk-table` stream checks all 2^16 entries of the tables of real dictionaries and runs the model on
  them against the real routine.
-/
import CSD.Model.SourceText
import CSD.Generated.Bodies
import CSD.Lemmas.CodecRoundTrip

namespace CSD.Props.C18
open CSD.Codes

/-- Prefix-free: no codeword is a proper prefix of another, and two entries with the same codeword are the same. -/
theorem code_prefix_free (t : Tree) (s₁ s₂ : Nat) (c₁ c₂ ext : List Bool)
    (h1 : (s₁, c₁) ∈ codes t) (h2 : (s₂, c₂) ∈ codes t) (he : c₂ = c₁ ++ ext) : ext = [] ∧ s₁ = s₂ :=
  codes_prefix_free t s₁ s₂ c₁ c₂ ext h1 h2 he

/-- Complete: Kraft's sum is exactly 1 (scaled: Σ 2^(D−ℓ) = 2^D). -/
theorem code_complete (t : Tree) (d : Nat) (h : depth t ≤ d) : kraft t d = 2 ^ d :=
  kraft_eq t d h

/-- Alphabetic (Hu-Tucker) trees keep the order: smaller symbol, smaller codeword. -/
theorem alphabetic_code_order (t : Tree) (ho : ordered t) (s₁ s₂ : Nat) (c₁ c₂ : List Bool)
    (h1 : (s₁, c₁) ∈ codes t) (h2 : (s₂, c₂) ∈ codes t) (hlt : s₁ < s₂) : bitsLt c₁ c₂ = true :=
  ordered_codes_lt t ho s₁ s₂ c₁ c₂ h1 h2 hlt

/-- Decoding inverts encoding for every encodable word, whatever bits follow it in the stream. -/
theorem decoding_inverts_encoding (t : Tree) (w : List Nat) (bits rest : List Bool)
    (h : encode t w = some bits) : decode t w.length (bits ++ rest) = some (w, rest) :=
  decode_encode t w bits rest h

open CSD.ChunkDec in
/-- A `processChunk` step decodes what the code tree decodes: from every scan state, the symbols the step writes are
the next symbols the tree decodes from the bit stream (padded with zeros to one chunk), and the stream is left right
behind their codewords; an entry that ends a string may swallow padding behind the terminator. Covers the
listed-string entries and the escape to a subtree for codewords longer than the chunk, with the byte-wise refill. -/
theorem chunk_step_decodes (t : Tree) (k : Nat) (table : Nat → Option Entry) (hT : TableOK t k table)
    (c : Scan) (out : List Nat) (flag : Bool) (c' : Scan)
    (h : processChunk table k c = some (out, flag, c')) :
    out ≠ [] ∧ ∃ r, decode t out.length (padTo k (stream c.pend c.bytes)) = some (out, r) ∧
      (r = stream c'.pend c'.bytes ∨ (out.getLast? = some 0 ∧ ∃ d, stream c'.pend c'.bytes = r.drop d)) :=
  processChunk_sound t k table hT c out flag c' h

open CSD.ChunkDec in
/-- On an encoded text, wherever it starts relative to byte boundaries: if the stream (pending bits, then whole
bytes) is the encoding of `w` followed by anything, the symbols written are the next symbols of `w`, and the scan is
left at the encoding of the rest of `w`. -/
theorem chunk_step_on_encoded_text (t : Tree) (k : Nat) (table : Nat → Option Entry) (hT : TableOK t k table)
    (c : Scan) (out : List Nat) (flag : Bool) (c' : Scan)
    (h : processChunk table k c = some (out, flag, c'))
    (w : List Nat) (enc rest : List Bool) (henc : encode t w = some enc)
    (hs : padTo k (stream c.pend c.bytes) = enc ++ rest) (hm : out.length ≤ w.length) :
    out = w.take out.length ∧
      (out.getLast? ≠ some 0 →
        ∃ e2, encode t (w.drop out.length) = some e2 ∧ stream c'.pend c'.bytes = e2 ++ rest) :=
  processChunk_on_encoded t k table hT c out flag c' h w enc rest henc hs hm

open CSD.ChunkDec in
/-- Table decoding inverts encoding for a whole string, wherever it starts and ends: if the stream (pending bits,
then bytes) holds the encoding of `w`, a string with no terminator before its last symbol, then repeating
`processChunk` until `|w|` symbols are written writes `w`, whatever follows `w` in the stream and although the last
step may decode beyond its end. -/
theorem chunked_decoding_inverts_encoding (t : Tree) (k : Nat) (table : Nat → Option Entry) (hT : TableOK t k table)
    (fuel : Nat) (pend : List Bool) (bytes : List Nat) (w : List Nat) (enc rest : List Bool) (o : List Nat)
    (henc : encode t w = some enc) (hnz : ∀ i, i + 1 < w.length → w[i]? ≠ some 0)
    (hs : padTo k (stream pend bytes) = enc ++ rest)
    (h : decodeAll table k fuel pend bytes w.length = some o) : o.take w.length = w :=
  decodeAll_spec t k table hT fuel pend bytes w enc rest o henc hnz hs h

open CSD.StatCoder in
/-- `StatCoder::encodeSymbol` (model with the 32-bit shifts and the byte truncation of the C++) appends exactly the
codeword: whatever the bit offset inside the byte under construction, the bit stream written afterwards is the one
written before followed by the `bits ≤ 32` bits of the codeword, most significant first. -/
theorem encodeSymbol_appends_codeword (cw bits cur off : Nat) (done : List Nat) (hb : bits ≤ 32) (ho : off < 8)
    (hc : Clean cur off) :
    ∃ bytes cur' off', encodeSymbol cw bits cur off = some (bytes, cur', off') ∧ off' < 8 ∧ Clean cur' off' ∧
      written (done ++ bytes) cur' off' = written done cur off ++ cwb cw bits :=
  encodeSymbol_spec cw bits cur off done hb ho hc

open CSD.StatCoder CSD.ChunkDec in
/-- Encode with `encodeString`, decode with the chunk table: a string whose only terminator is its last symbol comes
back. -/
theorem encodeString_then_table_decoding (t : Tree) (k : Nat) (table : Nat → Option Entry) (hT : TableOK t k table)
    (cwOf : Nat → Nat × Nat) (hb : ∀ s, (cwOf s).2 ≤ 32) (w : List Nat) (hm : TableMatches t cwOf w)
    (hnz : ∀ i, i + 1 < w.length → w[i]? ≠ some 0) (bytes : List Nat)
    (he : encodeString cwOf w 0 0 [] = some bytes) (fuel : Nat) (o : List Nat)
    (hd : decodeAll table k fuel [] bytes w.length = some o) : o.take w.length = w :=
  encodeString_then_decodeAll t k table hT cwOf hb w hm hnz bytes he fuel o hd

/-- Non-vacuity: the 3-bit codeword 101 written at offset 6 of a byte holding 11 completes the byte
0b11_000000 ||| 0b10 = 194 and leaves one bit (1) in the next byte. -/
example : StatCoder.encodeSymbol 5 3 192 6 = some ([194], 128, 1) := by decide

open CSD.ChunkDec in
/-- The step never fails (no table index without an entry, no byte read past the bucket) when the table covers all
`2^k` indices and the stream starts with a whole codeword. -/
theorem chunk_step_total (t : Tree) (k : Nat) (table : Nat → Option Entry) (hT : TableOK t k table)
    (hcov : ∀ i, i < 2 ^ k → (table i).isSome) (hd : depth t ≤ 64) (c : Scan)
    (hcw : (decodeSym t (padTo k (stream c.pend c.bytes))).isSome) :
    (processChunk table k c).isSome :=
  processChunk_total t k table hT hcov hd c hcw

open CSD.ChunkDec in
/-- The end-of-string flag `true` means a terminator was written; `strLen` stops right behind it and the symbols
behind it are counted as extracted in advance. The second alternative is a terminator that came out of a subtree
walk: one symbol, `advanced` untouched. -/
theorem chunk_flag_marks_terminator (t : Tree) (k : Nat) (table : Nat → Option Entry) (hT : TableOK t k table)
    (c : Scan) (out : List Nat) (c' : Scan) (h : processChunk table k c = some (out, true, c')) :
    ∃ e, c'.strLen = c.strLen + e ∧ 1 ≤ e ∧ e ≤ out.length ∧ out[e - 1]? = some 0 ∧
      (c'.advanced = out.length - e ∨ (out.length = 1 ∧ c'.advanced = c.advanced)) :=
  processChunk_flag_true t k table hT c out c' h

/-- Non-vacuity: the code {0 ↦ 0, 1 ↦ 10, 2 ↦ 11} with 2-bit chunks: index 01 lists the symbol 0 (1 bit),
index 10 the symbol 1; the table is sound and a step over the byte 0b0100_0000 writes symbol 0. -/
example :
    let t : Tree := .node (.leaf 0) (.node (.leaf 1) (.leaf 2))
    let table : Nat → Option ChunkDec.Entry := fun i =>
      if i = 0 then some (.str [0, 0] 2 true) else if i = 1 then some (.str [0] 1 true)
      else if i = 2 then some (.str [1] 2 false) else if i = 3 then some (.str [2] 2 false) else none
    (∀ i, i < 4 → ((table i).map (ChunkDec.entryOK t 2 i)) = some true) ∧
    (ChunkDec.processChunk table 2 { pend := [], bytes := [64], strLen := 0, advanced := 0, extracted := 5 }).map (·.1) = some [0] := by
  decide

/-- Non-vacuity of the code-tree theorems: a three-leaf alphabetic tree. -/
example : ordered (.node (.leaf 0) (.node (.leaf 1) (.leaf 2))) ∧
    codes (.node (.leaf 0) (.node (.leaf 1) (.leaf 2))) = [(0, [false]), (1, [true, false]), (2, [true, true])] :=
  ⟨⟨trivial, ⟨trivial, trivial, by decide⟩, by decide⟩, rfl⟩

/-- The models of this file were written against the current text of the C++ functions they mirror (DESIGN.md §4.1). -/
theorem models_match_source_text :
    Generated.body_DecodingTable_getSubstring = SourceText.body_DecodingTable_getSubstring ∧
    Generated.body_DecodingTable_processChunk = SourceText.body_DecodingTable_processChunk ∧
    Generated.body_StatCoder_encodeSymbol = SourceText.body_StatCoder_encodeSymbol ∧
    Generated.body_StatCoder_encodeString = SourceText.body_StatCoder_encodeString := ⟨rfl, rfl, rfl, rfl⟩

end CSD.Props.C18
