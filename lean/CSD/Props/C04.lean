/-
  C04 — Prefix search is exact: precisely the members that start with the pattern.

  The fact every order-preserving kind relies on (matches are contiguous, so one ID range describes them), the
  ID-range iterator, and for the models of PFC, RPFC, RPDAC and FMINDEX that `locatePrefix` returns exactly that
  range and `extractPrefix` its strings. The other prefix-capable kinds are compared with `Spec.prefixIds` by the
  correspondence stream.
-/
import CSD.Model.SourceText
import CSD.Generated.Bodies
import CSD.Lemmas.FMIter
import CSD.Lemmas.IdIter
import CSD.Lemmas.PFCRange
import CSD.Lemmas.RPDACIter
import CSD.Lemmas.RPFCIter

namespace CSD.Props.C04
open CSD

/-- In a valid dictionary the members beginning with `p` are consecutive, so one ID range describes them. -/
theorem prefix_matches_contiguous (S : List Str) (hv : validDict S = true) (p : Str) (i j k : Nat)
    (hij : i < j) (hjk : j < k) (hk : k < S.length)
    (hi : isPrefix p (S[i]'(by omega)) = true) (hk' : isPrefix p S[k] = true) :
    isPrefix p (S[j]'(by omega)) = true :=
  (validDict_sorted hv).isPrefix_getElem_between p (Nat.le_of_lt hij) (Nat.le_of_lt hjk) hk hi hk'

/-- The iterator `locatePrefix` returns for a non-empty range yields `left, left+1, …, right`, each ID once. -/
theorem id_range_iterator (left right : Nat) (h1 : 1 ≤ left) (h2 : left ≤ right) (h3 : right < 2 ^ 64) :
    IdIter.Contig.drain (right - left + 2) (IdIter.Contig.mk' left right)
      = (List.range (right - left + 1)).map (· + left) :=
  IdIter.contig_drain left right h1 h2 h3

/-- When nothing matches, the iterator built from `(NORESULT, NORESULT)` is empty. -/
theorem id_range_iterator_empty (fuel : Nat) :
    IdIter.Contig.drain fuel (IdIter.Contig.mk' 0 0) = [] :=
  IdIter.contig_empty fuel

/-- `StringDictionaryPFC::locatePrefix` (`locateBoundaryBuckets` with its three binary searches on the headers,
`searchPrefix` with its shared-prefix shortcuts, `searchDistinctPrefix`, the single- and multi-bucket paths and the
ID arithmetic) returns `(0,0)` when no member starts with the pattern and otherwise the ID range of exactly those
that do; every read stays inside the text. -/
theorem pfc_prefix_search_exact (b : Nat) (S : List Str) (hv : validDict S = true) (q : Str) (hq : PFC.nulFree q) :
    ∃ lo hi, PFC.locatePrefix (PFC.build b S) q = some (lo, hi) ∧
      ((lo = 0 ∧ hi = 0 ∧ ∀ i (h : i < S.length), isPrefix q S[i] = false) ∨
       (1 ≤ lo ∧ lo ≤ hi ∧ hi ≤ S.length ∧
         ∀ i (h : i < S.length), (isPrefix q S[i] = true ↔ lo ≤ i + 1 ∧ i + 1 ≤ hi))) :=
  PFC.locatePrefix_build b S q (validDict_ne hv) (validDict_nulFree hv) (validDict_sorted hv) hq

/-- `StringDictionaryRPDAC::locatePrefix` (a binary search for any match, then one for each boundary, all comparing
through `extractPrefixAndCompareDAC` / `expandRuleAndComparePrefixDAC`) returns the ID range of exactly the members
that start with the pattern, `(0,0)` when there is none; every comparison stays inside the pattern's buffer. -/
theorem rpdac_prefix_search_exact (d : RPDAC.D) (S : List Str) (r : RPDAC.Represents d S)
    (hv : validDict S = true) (p : Str) (hp : PFC.nulFree p) (hne : p ≠ []) :
    ∃ lo hi, RPDAC.locatePrefix d (RPDAC.bytesNat p) = some (lo, hi) ∧
      ((lo = 0 ∧ hi = 0 ∧ ∀ id (h1 : 1 ≤ id) (h2 : id ≤ S.length), isPrefix p (S[id - 1]'(by omega)) = false) ∨
       (1 ≤ lo ∧ lo ≤ hi ∧ hi ≤ S.length ∧
         ∀ id (h1 : 1 ≤ id) (h2 : id ≤ S.length), (isPrefix p (S[id - 1]'(by omega)) = true ↔ lo ≤ id ∧ id ≤ hi))) :=
  RPDAC.locatePrefix_represents d S r (validDict_nulFree hv) (validDict_sorted hv) p hp hne

/-- The comparison the three searches use is `strncmp(stored, pattern, |pattern|)`. -/
theorem rpdac_prefix_compare_is_strncmp (g : RePair.Grammar) (hwf : g.wf = true) (syms : List Nat)
    (hval : ∀ s ∈ syms, s < g.terminals + g.rules.length) (s p : Str)
    (hexp : g.expand syms = RPDAC.bytesNat s) (hs : PFC.nulFree s) (hp : PFC.nulFree p) (hne : p ≠ []) :
    RPDAC.comparePrefixDAC g syms (RPDAC.bytesNat p) = some (scmp (s.take p.length) p) :=
  RPDAC.comparePrefixDAC_eq g hwf syms hval s p hexp hs hp hne

/-- The property in list form, for a kind without a model: `locatePrefix S p = Spec.prefixIds S p` with all reads in
bounds, for every valid `S` and non-empty pattern. -/
def PrefixSearchStatement (locatePrefix : List Str → Str → Option (List Nat)) : Prop :=
  ∀ S p, validDict S = true → p ≠ [] → locatePrefix S p = some (Spec.prefixIds S p)

example : Spec.prefixIds [[0x61, 0x62], [0x61, 0x62, 0x63], [0x62]] [0x61] = [1, 2] := by decide

/-- The prefix-search model was written against the current text of the C++ functions it mirrors. -/
theorem models_match_source_text :
    Generated.body_RPDAC_locatePrefix = SourceText.body_RPDAC_locatePrefix ∧
    Generated.body_RePair_comparePrefixDAC = SourceText.body_RePair_comparePrefixDAC ∧
    Generated.body_RePair_comparePrefixRule = SourceText.body_RePair_comparePrefixRule ∧
    Generated.body_PFC_locatePrefix = SourceText.body_PFC_locatePrefix ∧
    Generated.body_PFC_locateBoundaryBuckets = SourceText.body_PFC_locateBoundaryBuckets ∧
    Generated.body_PFC_searchPrefix = SourceText.body_PFC_searchPrefix ∧
    Generated.body_PFC_searchDistinctPrefix = SourceText.body_PFC_searchDistinctPrefix ∧
    Generated.body_longestCommonPrefix = SourceText.body_longestCommonPrefix ∧
    Generated.body_PFC_getHeader = SourceText.body_PFC_getHeader ∧
    Generated.body_PFC_decodeNextString = SourceText.body_PFC_decodeNextString := ⟨rfl, rfl, rfl, rfl, rfl, rfl, rfl, rfl, rfl, rfl⟩

/-- `StringDictionaryFMINDEX::locatePrefix`: the backward search of `\1 p` returns the block of separator suffixes
of the members that start with `p`, so the limits handed to the contiguous iterator are those of
`Spec.prefixIds S p`, and `(0, 0)` (the empty iterator) when that is empty. -/
theorem fmindex_prefix_search_exact {S : List Str} {L : List FM.Row} {d : FM.Dict} (hv : validDict S = true)
    (hd : FM.DictOK S L d) (p : Str) (hp : p.all validByte = true) (hne : p ≠ []) :
    ∃ l r, d.locatePrefix p = some (l, r) ∧
      ((Spec.prefixIds S p = [] ∧ l = 0 ∧ r = 0) ∨
       (Spec.prefixIds S p ≠ [] ∧ Spec.prefixIds S p = List.range' l (r + 1 - l) ∧ 1 ≤ l ∧ l ≤ r)) :=
  FM.locatePrefix_spec hv hd p hp hne

example : validDict [[0x61, 0x62], [0x61, 0x62, 0x63], [0x62]] = true ∧ (∃ L d, FM.DictOK [[0x61, 0x62], [0x61, 0x62, 0x63], [0x62]] L d) :=
  ⟨by decide, _, _, FM.dictOK_buildDict _ 2⟩

/-- `StringDictionaryFMINDEX::extractPrefix`: NULL when no member starts with the pattern; otherwise the string
iterator opened on the range of `locatePrefix` drains to the slice of the sorted input behind the `#{s < p}` members
below the pattern, as long as the number of members with prefix `p`. -/
theorem fmindex_extract_prefix_exact {S : List Str} {L : List FM.Row} {d : FM.Dict} (hv : validDict S = true)
    (hd : FM.DictOK S L d) (hml : ∀ s ∈ S, s.length < d.maxlength) (p : Str) (hp : p.all validByte = true) (hne : p ≠ []) :
    d.extractPrefix p =
      some (if S.countP (fun s => (FM.symsOf p).isPrefixOf (FM.symsOf s)) = 0 then none
            else some (((S.drop (S.countP (fun s => decide (FM.symsOf s < FM.symsOf p)))).take
                          (S.countP (fun s => (FM.symsOf p).isPrefixOf (FM.symsOf s)))).map FM.symsOf)) :=
  FM.extractPrefix_spec hv hd hml p hp hne

/-- The FM-index models were written against the current text of the C++ functions they mirror. -/
theorem fm_models_match_source_text :
    Generated.body_SSA_locate_id = SourceText.body_SSA_locate_id ∧
    Generated.body_SSA_locateP = SourceText.body_SSA_locateP ∧
    Generated.body_SSA_locate = SourceText.body_SSA_locate ∧
    Generated.body_SSA_extract_id = SourceText.body_SSA_extract_id ∧
    Generated.body_SSA_build_index = SourceText.body_SSA_build_index ∧
    Generated.body_SSA_build_bwt = SourceText.body_SSA_build_bwt ∧
    Generated.body_FMINDEX_ctor = SourceText.body_FMINDEX_ctor ∧
    Generated.body_FMINDEX_locate = SourceText.body_FMINDEX_locate ∧
    Generated.body_FMINDEX_extract = SourceText.body_FMINDEX_extract ∧
    Generated.body_FMINDEX_locatePrefix = SourceText.body_FMINDEX_locatePrefix ∧
    Generated.body_FMINDEX_locateSubstr = SourceText.body_FMINDEX_locateSubstr ∧
    Generated.body_FMINDEX_build_ssa = SourceText.body_FMINDEX_build_ssa :=
  ⟨rfl, rfl, rfl, rfl, rfl, rfl, rfl, rfl, rfl, rfl, rfl, rfl⟩

/-- The FMINDEX `extractPrefix` model was written against the current text of the C++ functions it mirrors. -/
theorem fm_extract_prefix_models_match_source_text :
    Generated.body_FMINDEX_extractPrefix = SourceText.body_FMINDEX_extractPrefix ∧
    Generated.body_FMIter_next = SourceText.body_FMIter_next := ⟨rfl, rfl⟩

/-- `StringDictionaryRPFC::locatePrefix` returns `(0, 0)` when no member starts with the pattern, otherwise the ID
range of exactly those that do (`PrefixChar`): its routines run in lockstep with those of PFC on the same strings
(`RPFC.locatePrefix_sim`). -/
theorem rpfc_prefix_search_exact {S : List Str} {d : RPFC.D} (hst : RPFC.Stores S d) (hv : validDict S = true)
    (q : Str) (hq : PFC.nulFree q) :
    ∃ lo hi, RPFC.locatePrefix d q = some (lo, hi) ∧ PFC.PrefixChar S q lo hi :=
  RPFC.locatePrefix_stores hst (validDict_ne hv) (validDict_nulFree hv) (validDict_sorted hv) q hq

/-- The RPFC prefix-search model was written against the current text of the C++ functions it mirrors. -/
theorem rpfc_prefix_models_match_source_text :
    Generated.body_RPFC_decodeString = SourceText.body_RPFC_decodeString ∧
    Generated.body_RPFC_locatePrefix = SourceText.body_RPFC_locatePrefix ∧
    Generated.body_RPFC_locateBoundaryBuckets = SourceText.body_RPFC_locateBoundaryBuckets ∧
    Generated.body_RPFC_searchPrefix = SourceText.body_RPFC_searchPrefix ∧
    Generated.body_RPFC_searchDistinctPrefix = SourceText.body_RPFC_searchDistinctPrefix :=
  ⟨rfl, rfl, rfl, rfl, rfl⟩

/-- `StringDictionaryPFC::extractPrefix` (`locatePrefix`, then an `IteratorDictStringPFC` opened at the in-bucket
offset of the left limit and drained over `right − left + 1` strings across bucket boundaries): NULL when no member
starts with the pattern, otherwise exactly those that do, in order. -/
theorem pfc_extract_prefix_exact (b : Nat) (S : List Str) (hv : validDict S = true) (q : Str) (hq : PFC.nulFree q) :
    PFC.extractPrefix (PFC.build b S) q =
      some (if S.filter (isPrefix q) = [] then none else some (S.filter (isPrefix q))) :=
  PFC.extractPrefix_build b S q (validDict_ne hv) (validDict_nulFree hv) (validDict_sorted hv) hq

/-- Non-vacuity: a two-bucket dictionary whose matches straddle the bucket boundary. -/
example : PFC.extractPrefix (PFC.build 2 [[0x61], [0x61, 0x62], [0x61, 0x63], [0x62]]) [0x61] =
    some (some [[0x61], [0x61, 0x62], [0x61, 0x63]]) :=
  (pfc_extract_prefix_exact 2 _ (by decide) _ (PFC.nulFree_of_all (by decide))).trans rfl

/-- The PFC range-scan model was written against the current text of the C++ functions it mirrors. -/
theorem pfc_range_models_match_source_text :
    Generated.body_PFC_extractPrefix = SourceText.body_PFC_extractPrefix ∧
    Generated.body_PFCIter_ctor = SourceText.body_PFCIter_ctor ∧
    Generated.body_PFCIter_next = SourceText.body_PFCIter_next ∧
    Generated.body_PFCIter_decodeNext = SourceText.body_PFCIter_decodeNext := ⟨rfl, rfl, rfl, rfl⟩

/-- `StringDictionaryRPFC::extractPrefix` (the same with an `IteratorDictStringRPFC`): the same answer; no symbol is
read past a bucket's stream, and every bucket change finds the stream read to its end. -/
theorem rpfc_extract_prefix_exact {S : List Str} {d : RPFC.D} (hst : RPFC.Stores S d) (hv : validDict S = true)
    (q : Str) (hq : PFC.nulFree q) :
    RPFC.extractPrefix d q = some (if S.filter (isPrefix q) = [] then none else some (S.filter (isPrefix q))) :=
  RPFC.extractPrefix_stores hst (validDict_ne hv) (validDict_nulFree hv) (validDict_sorted hv) q hq

/-- The RPFC range-scan model was written against the current text of the C++ functions it mirrors. -/
theorem rpfc_range_models_match_source_text :
    Generated.body_RPFC_extractPrefix = SourceText.body_RPFC_extractPrefix ∧
    Generated.body_RPFCIter_ctor = SourceText.body_RPFCIter_ctor ∧
    Generated.body_RPFCIter_next = SourceText.body_RPFCIter_next ∧
    Generated.body_RPFCIter_decodeNext = SourceText.body_RPFCIter_decodeNext := ⟨rfl, rfl, rfl, rfl⟩

/-- `StringDictionaryRPDAC::extractPrefix` (the limits of `locatePrefix`, then `IteratorDictStringRPDAC` with
`scanneable = right` and `processed = left − 1`, a `size_t` that wraps around for the limits `(0, 0)` of an empty
result; `hlen`: the IDs fit one): the iterator drains to exactly the members that start with the pattern, in order. -/
theorem rpdac_extract_prefix_exact (d : RPDAC.D) (S : List Str) (r : RPDAC.Represents d S)
    (hv : validDict S = true) (hlen : S.length < 2 ^ 64) (p : Str) (hp : PFC.nulFree p) (hne : p ≠ []) :
    RPDAC.extractPrefix d (RPDAC.bytesNat p) = some ((S.filter (isPrefix p)).map RPDAC.bytesNat) :=
  RPDAC.extractPrefix_represents d S r (validDict_nulFree hv) (validDict_sorted hv) hlen p hp hne

/-- The RPDAC iterator model was written against the current text of the C++ functions it mirrors. -/
theorem rpdac_iterator_models_match_source_text :
    Generated.body_RPDAC_extractPrefix = SourceText.body_RPDAC_extractPrefix ∧
    Generated.body_RPDAC_extractTable = SourceText.body_RPDAC_extractTable ∧
    Generated.body_RPDACIter_ctor = SourceText.body_RPDACIter_ctor ∧
    Generated.body_RPDACIter_next = SourceText.body_RPDACIter_next := ⟨rfl, rfl, rfl, rfl⟩

/-- When no member begins with the pattern, `locatePrefix` returns the limits
`(0, 0)` (NORESULT) and `extractPrefix` produces no string: NULL for PFC and RPFC, an iterator that is empty from the
start for RPDAC. -/
theorem no_match_yields_nothing {S : List Str} (hv : validDict S = true) (b : Nat)
    {dR : RPFC.D} (hR : RPFC.Stores S dR) {dD : RPDAC.D} (hD : RPDAC.Represents dD S) (hlen : S.length < 2 ^ 64)
    (q : Str) (hq : PFC.nulFree q) (hne : q ≠ []) (hno : ∀ s ∈ S, isPrefix q s = false) :
    PFC.locatePrefix (PFC.build b S) q = some (0, 0) ∧ PFC.extractPrefix (PFC.build b S) q = some none ∧
    RPFC.locatePrefix dR q = some (0, 0) ∧ RPFC.extractPrefix dR q = some none ∧
    RPDAC.extractPrefix dD (RPDAC.bytesNat q) = some [] := by
  have hfil : S.filter (isPrefix q) = [] := List.filter_eq_nil_iff.mpr fun a ha => Bool.eq_false_iff.mp (hno a ha)
  obtain ⟨lo, hi, hloc, hchar⟩ :=
    PFC.locatePrefix_build b S q (validDict_ne hv) (validDict_nulFree hv) (validDict_sorted hv) hq
  obtain ⟨rfl, rfl⟩ := hchar.eq_zero hno
  obtain ⟨lo', hi', hloc', hchar'⟩ := rpfc_prefix_search_exact hR hv q hq
  obtain ⟨rfl, rfl⟩ := hchar'.eq_zero hno
  refine ⟨hloc, ?_, hloc', ?_, ?_⟩
  · rw [pfc_extract_prefix_exact b S hv q hq, hfil]; rfl
  · rw [rpfc_extract_prefix_exact hR hv q hq, hfil]; rfl
  · rw [rpdac_extract_prefix_exact dD S hD hv hlen q hq hne, hfil]; rfl

end CSD.Props.C04
