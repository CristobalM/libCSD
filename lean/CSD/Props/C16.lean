/-
  C16 — Unsupported operations and unknown images fail safe.

  Over fragments translated from the sources on every run (`CSD/Generated/Dispatch.lean`, `Stubs.lean`): the switch
  of `StringDictionary::load`, every loader's tag guard, the tag `save` writes, and the shape of every operation
  body; and over the FMINDEX model: without BWT sampling `locate` is refused and `locateSubstr` is empty.
-/
import CSD.Model.FM
import CSD.Generated.Stubs

namespace CSD.Props.C16
open CSD.Generated

/-- The generic loader selects the right kind for the tag of every kind. -/
theorem dispatch_known (k : Kind) : dispatch k.tag = some k := by
  cases k <;> rfl

/-- …and returns NULL for every other tag. -/
theorem dispatch_unknown (t : Nat) (h : ∀ k : Kind, k.tag ≠ t) : dispatch t = none := by
  -- a case of the switch is not taken when its constant is the tag of a kind, wherever it stands in the switch
  have skip (k : Kind) (n : Nat) (r : Option Kind) (hk : k.tag = n) : (if t = n then some k else r) = r :=
    if_neg fun e => h k (hk.trans e.symm)
  unfold dispatch
  -- one `skip` per case of the generated switch (13); each leaves its `k.tag = n` to the `rfl` below
  rw [skip, skip, skip, skip, skip, skip, skip, skip, skip, skip, skip, skip, skip]
  all_goals rfl

/-- The generic loader never confuses kinds: it answers `k` only for `k`'s tag. -/
theorem dispatch_sound (t : Nat) (k : Kind) (h : dispatch t = some k) : t = k.tag := by
  by_cases hk : ∃ k' : Kind, k'.tag = t
  · obtain ⟨k', rfl⟩ := hk
    rw [dispatch_known] at h
    cases h; rfl
  · have := dispatch_unknown t (fun k' hk' => hk ⟨k', hk'⟩)
    rw [this] at h; cases h

/-- Each kind's own loader accepts exactly its own tag… -/
theorem loader_guard_own (k : Kind) : loaderGuard k = k.tag := by
  cases k <;> rfl

/-- …so it returns NULL when handed any other kind's image (tags are pairwise distinct). -/
theorem loader_rejects_foreign (k k' : Kind) (h : k ≠ k') : loaderGuard k ≠ k'.tag := by
  -- tags are distinct because `dispatch` inverts `tag`
  intro e
  have : some k = some k' := by rw [← dispatch_known k, ← loader_guard_own k, e, dispatch_known]
  exact h (Option.some.inj this)

/-- `save` writes the kind's own tag first, on built and on loaded objects: every assignment to `type` in the class
assigns that constant. -/
theorem save_writes_own_tag (k : Kind) : saveTags k = [k.tag] := by
  cases k <;> rfl

/-- The operations the property lists as not provided are stubs: they print a message and return NULL / 0 without
reading or writing any member of the dictionary. -/
theorem unsupported_are_stubs :
    (∀ k ∈ [Kind.HASHHF, .HASHRPF, .HASHUFFDAC, .HASHRPDAC, .BLOCKS],
      ∀ op ∈ [Op.locatePrefix, .locateSubstr, .locateRank, .extractPrefix, .extractSubstr, .extractRank],
        body k op = .stub) ∧
    (∀ k ∈ [Kind.PFC, .RPFC, .HTFC, .HHTFC, .RPHTFC, .RPDAC],
      ∀ op ∈ [Op.locateSubstr, .extractSubstr], body k op = .stub) ∧
    body .XBW .extractTable = .stub := by
  decide

/-- The rank operations of the order-preserving kinds are the identity on IDs: `locateRank(k) = k`,
`extractRank(k) = extract(k)` (cited by `pfc_rank_identity` of C03). -/
theorem rank_ops_identity :
    ∀ k ∈ [Kind.PFC, .RPFC, .HTFC, .HHTFC, .RPHTFC, .RPDAC, .FMINDEX],
      body k .locateRank = .rankid ∧ body k .extractRank = .extractid := by
  decide

/-- `SSA::locate` on an index built without BWT sampling reports "no occurrences array", instead of walking over
sampling structures that do not exist. -/
theorem fmindex_unsampled_locate_is_refused (ix : FM.Index) (h : ix.samplesuff = 0) (pat : List Nat) :
    FM.locateOccs ix pat = some none := by
  unfold FM.locateOccs; simp [h]

/-- Without BWT sampling the dictionary-level `locateSubstr` is empty. -/
theorem fmindex_unsampled_locateSubstr_is_empty (d : FM.Dict) (h : d.ix.samplesuff = 0) (p : Str) :
    d.locateSubstr p = some [] := by
  unfold FM.Dict.locateSubstr
  rw [fmindex_unsampled_locate_is_refused d.ix h]

end CSD.Props.C16
