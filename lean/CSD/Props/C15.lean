/-
  C15 — Metadata is truthful: exact element count, maxLength bounds every string.

  For the model of PFC (count, both bounds on `maxLength`, extracted strings fit) and of the FMINDEX build; element
  counts of RPFC and RPDAC objects.
-/
import CSD.Model.SourceText
import CSD.Generated.Bodies
import CSD.Lemmas.Refines

namespace CSD.Props.C15
open CSD CSD.PFC

theorem pfc_numElements (b : Nat) (S : List Str) : (PFC.build b S).elements = Spec.numElements S := rfl

/-- A `maxLength`-byte buffer holds any member with its terminator… -/
theorem pfc_maxLength_bounds (b : Nat) (S : List Str) (s : Str) (hs : s ∈ S) :
    s.length + 1 ≤ (PFC.build b S).maxlength :=
  maxlength_bounds b S s hs

/-- …and is at most the longest length plus one. -/
theorem pfc_maxLength_tight (b : Nat) (S : List Str) :
    (PFC.build b S).maxlength ≤ Spec.maxLen S + 1 :=
  maxlength_le b S

/-- Every string `extract` returns fits the buffer a caller sizes from `maxLength`. -/
theorem pfc_extract_fits (b : Nat) (S : List Str) (hv : validDict S = true)
    (i : Nat) (s : Str) (h : PFC.extract (PFC.build b S) i = some (some s)) :
    s.length + 1 ≤ (PFC.build b S).maxlength := by
  rw [(PFC.refinesExtract b (validDict_nulFree hv)).extract_eq i] at h
  exact maxlength_bounds b S s (Spec.mem_of_extract (Option.some.inj h))

example : (PFC.build 4 [[0x61], [0x62, 0x63]]).maxlength = 3 := by decide

/-- The models of this file were written against the current text of the C++ functions they mirror (DESIGN.md §4.1). -/
theorem models_match_source_text :
    Generated.body_PFC_ctor = SourceText.body_PFC_ctor ∧
    Generated.body_PFC_load = SourceText.body_PFC_load := ⟨rfl, rfl⟩

/-- The FM-index dictionary built by the model reports `numElements = n` and a `maxLength` above every member (the
constructor's `len + 1` convention). -/
theorem fmindex_metadata (S : List Str) (step : Nat) :
    (FM.buildDict S step).elements = S.length ∧ ∀ s ∈ S, s.length < (FM.buildDict S step).maxlength :=
  ⟨rfl, FM.maxlength_buildDict S step⟩

/-- For RPFC and RPDAC the element count is part of `Stores` and `Represents`, which the driver re-validates on every
exported object: the theorem only reads it off. -/
theorem rpfc_rpdac_numElements {S : List Str} {dR : RPFC.D} (hR : RPFC.Stores S dR)
    {dD : RPDAC.D} (hD : RPDAC.Represents dD S) :
    dR.elements = Spec.numElements S ∧ dD.seqs.length = Spec.numElements S :=
  ⟨hR.elements, hD.len⟩

end CSD.Props.C15
