/-
  C01 — Locate/extract round trip: IDs 1..n are a bijection onto the string set.

  For the models of PFC (every bucket size), RPFC (any storing grammar), RPDAC (any representing grammar), FMINDEX
  (any suffix array of the text) and of the hash kinds: the table under HASHRPDAC and HASHRPF, HASHRPDACBlocks (every
  cut size), the coded keys of HASHHF and HASHUFFDAC. The kinds without a model are compared with the same
  specification by the correspondence streams.
-/
import CSD.Model.SourceText
import CSD.Generated.Bodies
import CSD.Lemmas.CodecRoundTrip
import CSD.Lemmas.HashBlocks
import CSD.Lemmas.HashRP
import CSD.Lemmas.Refines

namespace CSD.Props.C01
open CSD CSD.PFC

/-- ID `i ∈ [1,n]` gives the `i`-th string; the outer `some`: every read of the decoder stays inside the text. -/
theorem pfc_extract_refines (b : Nat) (S : List Str) (hv : validDict S = true)
    (i : Nat) (h1 : 1 ≤ i) (h2 : i ≤ S.length) :
    PFC.extract (PFC.build b S) i = some (Spec.extract S i) :=
  (extract_build b S (validDict_nulFree hv) i h1 h2).trans (congrArg some (Spec.extract_pos h1).symm)

/-- `locate` answers every NUL-free query, member or not, as the specification does. -/
theorem pfc_locate_refines (b : Nat) (S : List Str) (hv : validDict S = true)
    (q : Str) (hq : nulFree q) :
    PFC.locate (PFC.build b S) q = some (Spec.locate S q) :=
  (PFC.refines b hv).locate_eq q hq

theorem pfc_locate_then_extract (b : Nat) (S : List Str) (hv : validDict S = true)
    (s : Str) (hs : s ∈ S) :
    ∃ i, 1 ≤ i ∧ i ≤ S.length ∧ PFC.locate (PFC.build b S) s = some i ∧
      PFC.extract (PFC.build b S) i = some (some s) :=
  (PFC.refines b hv).locate_then_extract s hs

/-- Round trip, ID → member → ID; with the theorem above `extract` is a bijection from `[1,n]` onto `S`. -/
theorem pfc_extract_then_locate (b : Nat) (S : List Str) (hv : validDict S = true)
    (i : Nat) (h1 : 1 ≤ i) (h2 : i ≤ S.length) :
    ∃ s, s ∈ S ∧ PFC.extract (PFC.build b S) i = some (some s) ∧
      PFC.locate (PFC.build b S) s = some i :=
  (PFC.refines b hv).extract_then_locate i h1 h2

/-- Hash dictionary, member → ID → member, whatever the collisions. `hacc`: the table size passed `nearest_prime`'s
own trial division (the C++ loop returns only such sizes). -/
theorem hash_locate_then_extract (tsize0 : Nat) (S : List Str) (hnd : S.Nodup) (hcap : S.length ≤ tsize0)
    (hacc : Hash.accepted (Hash.build tsize0 S).tsize = true) (s : Str) (hs : s ∈ S) :
    1 ≤ Hash.locate (Hash.build tsize0 S) s ∧ Hash.locate (Hash.build tsize0 S) s ≤ S.length ∧
      Hash.extract (Hash.build tsize0 S) (Hash.locate (Hash.build tsize0 S) s) = some s :=
  Hash.member_round_trip (Hash.goodDict_build tsize0 S hnd hcap hacc) s hs

theorem hash_extract_then_locate (tsize0 : Nat) (S : List Str) (hnd : S.Nodup) (hcap : S.length ≤ tsize0)
    (hacc : Hash.accepted (Hash.build tsize0 S).tsize = true) (i : Nat) (h1 : 1 ≤ i) (h2 : i ≤ S.length) :
    ∃ s, s ∈ S ∧ Hash.extract (Hash.build tsize0 S) i = some s ∧ Hash.locate (Hash.build tsize0 S) s = i := by
  have g := Hash.goodDict_build tsize0 S hnd hcap hacc
  obtain ⟨w, hw, hm, hl⟩ := Hash.locate_extract g i h1 h2
  exact ⟨w, hm, hw, hl⟩

theorem hash_ids_injective (tsize0 : Nat) (S : List Str) (hnd : S.Nodup) (hcap : S.length ≤ tsize0)
    (hacc : Hash.accepted (Hash.build tsize0 S).tsize = true) (s s' : Str) (hs : s ∈ S) (hs' : s' ∈ S)
    (h : Hash.locate (Hash.build tsize0 S) s = Hash.locate (Hash.build tsize0 S) s') : s = s' :=
  Hash.locate_injective (Hash.goodDict_build tsize0 S hnd hcap hacc) s s' hs hs' h

/-- HASHHF and HASHUFFDAC key the table by the Huffman-coded strings: `StatCoder::encodeString` (bit-exact model) is
injective on NUL-terminated strings for every codeword table that lists the paths of a code tree, so the hash
theorems above apply with `S := keys`. The `huffman-keys` stream re-encodes with the exported codewords and must
predict every ID of the real `locate`. -/
theorem huffman_keys_distinct (t : Codes.Tree) (cwOf : Nat → Nat × Nat) (hb : ∀ s, (cwOf s).2 ≤ 32)
    (w w' : List Nat) (hm : StatCoder.TableMatches t cwOf w) (hm' : StatCoder.TableMatches t cwOf w')
    (hw : StatCoder.Terminated w) (hw' : StatCoder.Terminated w') (bytes : List Nat)
    (he : StatCoder.encodeString cwOf w 0 0 [] = some bytes) (he' : StatCoder.encodeString cwOf w' 0 0 [] = some bytes) :
    w = w' :=
  StatCoder.encodeString_injective t cwOf hb w w' hm hm' hw hw' bytes he he'

/-- A table size `nearest_prime` accepted is prime (or 1), which makes the probe sequence visit every cell. -/
theorem hash_table_size_prime (tsize0 : Nat) (S : List Str)
    (hacc : Hash.accepted (Hash.build tsize0 S).tsize = true) :
    (Hash.build tsize0 S).tsize = 1 ∨ Hash.IsPrime (Hash.build tsize0 S).tsize :=
  Hash.accepted_prime_or_one hacc

/-- HASHRPDACBlocks, member → ID → member, for every cut size and every per-block table size that holds its block
(`PartsOK`): the samples route a member to the part built from its block, whose local ID is shifted by the number
of strings before it. -/
theorem blocks_locate_then_extract (cutSize : Nat) (tsizeOf : Nat → Nat) (S : List Str)
    (ok : Hash.PartsOK cutSize tsizeOf S) (s : Str) (hs : s ∈ S) :
    1 ≤ Hash.locateBlocks (Hash.buildBlocks cutSize tsizeOf S) s ∧
    Hash.locateBlocks (Hash.buildBlocks cutSize tsizeOf S) s ≤ S.length ∧
    Hash.extractBlocks (Hash.buildBlocks cutSize tsizeOf S)
      (Hash.locateBlocks (Hash.buildBlocks cutSize tsizeOf S) s) = some s :=
  Hash.blocks_locate_member ok s hs

theorem blocks_extract_then_locate (cutSize : Nat) (tsizeOf : Nat → Nat) (S : List Str)
    (ok : Hash.PartsOK cutSize tsizeOf S) (i : Nat) (h1 : 1 ≤ i) (h2 : i ≤ S.length) :
    ∃ s, s ∈ S ∧ Hash.extractBlocks (Hash.buildBlocks cutSize tsizeOf S) i = some s ∧
      Hash.locateBlocks (Hash.buildBlocks cutSize tsizeOf S) s = i :=
  Hash.blocks_extract_then_locate ok i h1 h2

/-- HASHRPDAC end to end: the real `locate`, which compares the query with a cell's string through
`extractStringAndCompareDAC` at the DAC position given by the cell's rank, gives every member an ID in `[1,n]` that
extracts to it. -/
theorem hashrpdac_locate_then_extract (tsize0 : Nat) (S : List Str) (hnd : S.Nodup) (hcap : S.length ≤ tsize0)
    (hacc : Hash.accepted (Hash.build tsize0 S).tsize = true) (hS : ∀ s ∈ S, PFC.nulFree s)
    (g : RePair.Grammar) (seqs : List (List Nat)) (st : Hash.StoresRP (Hash.build tsize0 S) g seqs)
    (s : Str) (hs : s ∈ S) :
    ∃ id, Hash.locateRP (Hash.build tsize0 S) g seqs s = some id ∧ 1 ≤ id ∧ id ≤ S.length ∧
      Hash.extract (Hash.build tsize0 S) id = some s := by
  have gd := Hash.goodDict_build tsize0 S hnd hcap hacc
  obtain ⟨h1, h2, h3⟩ := hash_locate_then_extract tsize0 S hnd hcap hacc s hs
  exact ⟨_, Hash.locateRP_eq gd hS g seqs st s (hS s hs), h1, h2, h3⟩

/-- HASHRPF end to end: the same for every member, with `offs` taking a cell to its offset in the one Re-Pair coded
symbol sequence `cls`, compared through `extractStringAndCompareRP` with its terminator sentinel `T`. -/
theorem hashrpf_locate_then_extract (tsize0 : Nat) (S : List Str) (hnd : S.Nodup) (hcap : S.length ≤ tsize0)
    (hacc : Hash.accepted (Hash.build tsize0 S).tsize = true)
    (g : RePair.Grammar) (T : Nat) (cls : List Nat) (offs : Nat → Nat)
    (st : Hash.StoresRPF (Hash.build tsize0 S) g T cls offs) (s : Str) (hs : s ∈ S) :
    ∃ id, Hash.locateRPF (Hash.build tsize0 S) g T cls offs s = some id ∧ 1 ≤ id ∧ id ≤ S.length ∧
      Hash.extract (Hash.build tsize0 S) id = some s := by
  have gd := Hash.goodDict_build tsize0 S hnd hcap hacc
  obtain ⟨h1, h2, h3⟩ := hash_locate_then_extract tsize0 S hnd hcap hacc s hs
  exact ⟨_, Hash.locateRPF_eq gd g T cls offs st s, h1, h2, h3⟩

/-- Non-vacuity of the Blocks hypotheses: four sorted strings cut into blocks of about 4 bytes. -/
example : Hash.PartsOK 4 (fun n => n + 1) [[0x61], [0x61, 0x62], [0x62], [0x63, 0x63]] :=
  ⟨sortedLt_of_sortedStrict _ (by decide), by decide +kernel⟩

/-- Non-vacuity of the hash hypotheses: three strings in a table requested for 3 (size 3 is accepted). -/
example : Hash.accepted (Hash.build 3 [[0x61], [0x62], [0x63]]).tsize = true ∧
    ([[0x61], [0x62], [0x63]] : List Str).Nodup := by decide +kernel

example : validDict [[0x61, 0x62], [0x61, 0x62, 0x63], [0x62]] = true := by decide

/-- The models of this file were written against the current text of the C++ functions they mirror (DESIGN.md §4.1). -/
theorem models_match_source_text :
    Generated.body_PFC_ctor = SourceText.body_PFC_ctor ∧
    Generated.body_PFC_locate = SourceText.body_PFC_locate ∧
    Generated.body_PFC_locateBucket = SourceText.body_PFC_locateBucket ∧
    Generated.body_PFC_getHeader = SourceText.body_PFC_getHeader ∧
    Generated.body_PFC_decodeNextString = SourceText.body_PFC_decodeNextString ∧
    Generated.body_PFC_extract = SourceText.body_PFC_extract ∧
    Generated.body_bitwisehash = SourceText.body_bitwisehash ∧
    Generated.body_step_value = SourceText.body_step_value ∧
    Generated.body_nearest_prime = SourceText.body_nearest_prime ∧
    Generated.body_HashDAC_insert = SourceText.body_HashDAC_insert ∧
    Generated.body_HASHRPDAC_locate = SourceText.body_HASHRPDAC_locate ∧
    Generated.body_HASHRPDAC_extract = SourceText.body_HASHRPDAC_extract ∧
    Generated.body_Blocks_search_before = SourceText.body_Blocks_search_before ∧
    Generated.body_Blocks_locate = SourceText.body_Blocks_locate ∧
    Generated.body_Blocks_extract = SourceText.body_Blocks_extract ∧
    Generated.body_RePair_compareDAC = SourceText.body_RePair_compareDAC ∧
    Generated.body_RePair_compareRule = SourceText.body_RePair_compareRule ∧
    Generated.body_DAC_VLS_access = SourceText.body_DAC_VLS_access ∧
    Generated.body_RePair_compareRP = SourceText.body_RePair_compareRP ∧
    Generated.body_HASHRPF_locate = SourceText.body_HASHRPF_locate ∧
    Generated.body_Hash_insert = SourceText.body_Hash_insert := ⟨rfl, rfl, rfl, rfl, rfl, rfl, rfl, rfl, rfl, rfl, rfl, rfl, rfl, rfl, rfl, rfl, rfl, rfl, rfl, rfl, rfl⟩

/-- Both round trips for `StringDictionaryFMINDEX`. The suffix sorting algorithm is not modelled: any suffix array of
the text will do (`DictOK`). The outer `some`s: every read of `occ`, `alphabet` and the BWT is in bounds, and the
result buffer of `maxlength + 2` bytes is not overrun (`hml`). -/
theorem fmindex_round_trip {S : List Str} {L : List FM.Row} {d : FM.Dict} (hv : validDict S = true)
    (hd : FM.DictOK S L d) (hml : ∀ s ∈ S, s.length < d.maxlength) (i : Nat) (hi : i < S.length) :
    d.locate S[i] = some (i + 1) ∧ d.extract (i + 1) = some (some (FM.symsOf S[i])) :=
  (FM.refines hv hd hml).round_trip i hi

/-- The hypotheses are those of the model's own build, for every `S` and sampling step. -/
theorem fmindex_hypotheses_hold (S : List Str) (step : Nat) :
    FM.DictOK S (FM.sortRows (FM.mkText S)) (FM.buildDict S step) ∧
    ∀ s ∈ S, s.length < (FM.buildDict S step).maxlength :=
  ⟨FM.dictOK_buildDict S step, FM.maxlength_buildDict S step⟩

/-- The FM-index models were written against the current text of the C++ functions they mirror. -/
theorem fm_models_match_source_text :
    Generated.body_SSA_locate_id = SourceText.body_SSA_locate_id ∧
    Generated.body_SSA_extract_id = SourceText.body_SSA_extract_id ∧
    Generated.body_SSA_build_index = SourceText.body_SSA_build_index ∧
    Generated.body_SSA_build_bwt = SourceText.body_SSA_build_bwt ∧
    Generated.body_FMINDEX_ctor = SourceText.body_FMINDEX_ctor ∧
    Generated.body_FMINDEX_locate = SourceText.body_FMINDEX_locate ∧
    Generated.body_FMINDEX_extract = SourceText.body_FMINDEX_extract ∧
    Generated.body_FMINDEX_build_ssa = SourceText.body_FMINDEX_build_ssa :=
  ⟨rfl, rfl, rfl, rfl, rfl, rfl, rfl, rfl⟩

/-- `StringDictionaryRPFC::extract` returns the member with rank `i` (`Stores` asks for shared prefixes below 16384,
the limit recorded as K11), also when the VByte byte is `0xFF` (shared length 127), the value of the terminator
mark; no symbol is read past the bucket's stream. -/
theorem rpfc_extract_exact {S : List Str} {d : RPFC.D} (hst : RPFC.Stores S d) (i : Nat) (h1 : 1 ≤ i)
    (h2 : i ≤ S.length) : RPFC.extract d i = some (S[i - 1]?) := RPFC.extract_stores hst i h1 h2

/-- `StringDictionaryRPFC::locate` — binary search on the plain headers, then the scan that decodes every string of
the candidate bucket in full and resumes the comparison at the length shared with the query — answers as the
specification does. -/
theorem rpfc_locate_exact {S : List Str} {d : RPFC.D} (hst : RPFC.Stores S d) (hv : validDict S = true)
    (q : Str) (hq : nulFree q) : RPFC.locate d q = some (Spec.locate S q) :=
  (RPFC.refines hst hv).locate_eq q hq

/-- RPFC round trip: `extract` is a bijection from `[1, n]` onto `S` with inverse `locate`. -/
theorem rpfc_round_trip {S : List Str} {d : RPFC.D} (hst : RPFC.Stores S d) (hv : validDict S = true)
    (i : Nat) (hi : i < S.length) :
    RPFC.locate d S[i] = some (i + 1) ∧ RPFC.extract d (i + 1) = some (some S[i]) :=
  (RPFC.refines hst hv).round_trip i hi

/-- `Stores` follows from the executable predicate the driver evaluates on every RPFC object exported by the real
code, before and after save/load. -/
theorem rpfc_hypothesis_is_checked {S : List Str} {d : RPFC.D} (h : RPFC.storesB S d = true) : RPFC.Stores S d :=
  RPFC.stores_of_storesB h

/-- `decodeString` on a stream that stores `cur` after `prev` returns the shared length, rebuilds `cur`
and leaves the stream at the next string. -/
theorem rpfc_decodeString_exact (d : RPFC.D) (prev cur : Str) (σ τ : List Nat)
    (hσ : d.g.expand σ = RPFC.entry d.maxchar prev cur) (hne : ∀ r ∈ σ, d.g.expandSym r ≠ [])
    (hl : PFC.lcp prev cur < 16384) (hsuf : cur.drop (PFC.lcp prev cur) ≠ [])
    (hmc : ∀ b ∈ cur, b.toNat ≠ d.maxchar) :
    RPFC.decodeString d prev (σ ++ τ) = some (PFC.lcp prev cur, cur, τ) :=
  RPFC.decodeString_spec d prev cur σ τ hσ hne hl hsuf hmc

/-- The hypotheses of `rpfc_decodeString_exact` are satisfiable: "ab" after "a" over the rule-free grammar. -/
example : ({ terminals := 256, rules := [] } : RePair.Grammar).expand [129, 98, 255] = RPFC.entry 255 [0x61] [0x61, 0x62] ∧
    PFC.lcp [0x61] [0x61, 0x62] < 16384 ∧ ([0x61, 0x62] : Str).drop (PFC.lcp [0x61] [0x61, 0x62]) ≠ [] := by
  refine ⟨?_, by decide, by decide⟩
  simp [RPFC.entry, RPFC.natsOf, PFC.lcp, VByte.encode, RePair.Grammar.expand, RePair.Grammar.expandSym, RePair.expandWith]

/-- The RPFC models were written against the current text of the C++ functions they mirror. -/
theorem rpfc_models_match_source_text :
    Generated.body_RPFC_decodeString = SourceText.body_RPFC_decodeString ∧
    Generated.body_RPFC_decodeSymbol = SourceText.body_RPFC_decodeSymbol ∧
    Generated.body_RPFC_getHeader = SourceText.body_RPFC_getHeader ∧
    Generated.body_RPFC_locateBucket = SourceText.body_RPFC_locateBucket ∧
    Generated.body_RPFC_locate = SourceText.body_RPFC_locate ∧
    Generated.body_RPFC_extract = SourceText.body_RPFC_extract ∧
    Generated.body_RPFC_locatePrefix = SourceText.body_RPFC_locatePrefix ∧
    Generated.body_RPFC_locateBoundaryBuckets = SourceText.body_RPFC_locateBoundaryBuckets ∧
    Generated.body_RPFC_searchPrefix = SourceText.body_RPFC_searchPrefix ∧
    Generated.body_RPFC_searchDistinctPrefix = SourceText.body_RPFC_searchDistinctPrefix :=
  ⟨rfl, rfl, rfl, rfl, rfl, rfl, rfl, rfl, rfl, rfl⟩

theorem rpdac_round_trip (d : RPDAC.D) (S : List Str) (r : RPDAC.Represents d S) (hv : validDict S = true)
    (i : Nat) (hi : i < S.length) :
    RPDAC.locate d (RPDAC.bytesNat S[i]) = some (i + 1) ∧ RPDAC.extract d (i + 1) = some (RPDAC.bytesNat S[i]) :=
  (RPDAC.refines d S r hv).round_trip i hi

end CSD.Props.C01
