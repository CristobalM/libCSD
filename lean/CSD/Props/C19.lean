/-
  C19 — Bundled succinct structures agree with their plain definitions.

  For `BitSequenceRG` (exact models of the C++ routines): `rank1` equals the plain count, `select1`/`select0` return
  the position of the `x`-th one/zero, `access` is the plain bit, and what the constructor builds survives
  save/load. `BitSequenceRRR`, the wavelet trees and the other variants are compared with the plain definitions by
  the correspondence stream (partial).
-/
import CSD.Model.SourceText
import CSD.Generated.Bodies
import CSD.Lemmas.RGImage
import CSD.Lemmas.RGSelect

namespace CSD.Props.C19
open CSD.RG

/-- `rank1(i)` is the number of ones in positions `0..i`. -/
theorem rg_rank1_exact (words : List Nat) (factor i : Nat) (hf : 0 < factor)
    (hi : (i + 1) / 32 < words.length) : rank1 words factor i = ones words (i + 1) :=
  rank1_eq_ones words factor i hi

/-- The super-block counters are the plain counts at the block boundaries. -/
theorem rg_superblock_counters (words : List Nat) (factor j : Nat) :
    Rs words factor j = ones words (32 * (j * factor)) :=
  Rs_eq words factor j

/-- `rank0(i)` is `i + 1 − rank1(i)` in the code (it has no model of its own): by `rg_rank1_exact`, `i + 1` minus the
plain count of ones. -/
theorem rg_rank0_exact (words : List Nat) (factor i : Nat) (hf : 0 < factor)
    (hi : (i + 1) / 32 < words.length) : (i + 1) - rank1 words factor i = (i + 1) - ones words (i + 1) := by
  rw [rank1_eq_ones words factor i hi]

example : rank1 [0b1011, 0] 1 3 = 3 := by decide

/-- `BitSequenceRG::select1` (binary search over the super-block counters, sequential search over whole words by
popcount, up to three byte skips by `popcount8`, then bit by bit): for `1 ≤ x ≤ total`, the stored count of ones
(`htot`: no more than there are; `hint`: no more words than `n` bits take), the answer is the position of the `x`-th
one, with every array read in bounds. With `rg_rank1_exact`: `rank1 (select1 x) = x`. -/
theorem rg_select1_exact (words : List Nat) (factor n total x : Nat) (hf : 0 < factor) (hx1 : 1 ≤ x) (hx2 : x ≤ total)
    (htot : total ≤ RG.ones words (32 * words.length)) (hint : words.length ≤ n / 32 + 1) :
    ∃ p, RG.select1 words factor n total x = some p ∧ (RG.allBits words)[p]? = some true ∧ RG.ones words p = x - 1 :=
  RG.select1_spec words factor n total x hf hx1 hx2 htot hint

/-- `select1(0)` and `select1(x > ones)` answer `(uint)-1`. -/
theorem rg_select1_out_of_range (words : List Nat) (factor n total x : Nat) (h : x = 0 ∨ x > total) :
    RG.select1 words factor n total x = some (2 ^ 32 - 1) := by
  unfold RG.select1
  rcases h with rfl | h
  · rw [if_neg (Nat.not_lt_zero _), if_pos rfl]
  · rw [if_pos h]

/-- `access` is the bit of the plain vector, for every position inside the array. -/
theorem rg_access_exact (words : List Nat) (i : Nat) (h : i < 32 * words.length) :
    (RG.allBits words)[i]? = some (RG.access words i) :=
  RG.allBits_getElem? words i h

/-- The BitSequenceRG the constructor builds with `BuildRank` survives save/load unchanged, words and counters, for
every bit vector of fewer than `2^32 − 64` bits. -/
theorem rg_image_reloads (words : List Nat) (n factor : Nat) (hn : n + 64 < 2 ^ 32) (hf : 0 < factor) (hf2 : factor < 2 ^ 64)
    (hw : ∀ w ∈ words, w < 2 ^ 32) (rest : List UInt8) :
    RG.loadImg (RG.saveImg (RG.build words n factor) ++ rest) = some (RG.build words n factor, rest) :=
  RG.build_reloads words n factor hn hf hf2 hw rest

/-- Non-vacuity: the 40-bit vector with words 5, 11 at factor 1 — two data words, two counters (0 and 2). -/
example : (RG.build [5, 11] 40 1).data = [5, 11] ∧ (RG.build [5, 11] 40 1).Rs = [0, 2] := by decide

/-- `select0` of BitSequenceRG (zeros before super-block `mid` are `mid·factor·W − Rs[mid]`): for `1 ≤ x ≤ n − total`
(`n` the bit length, `total` the stored count of ones; `htot`: no more zeros than there are) the answer `p < n` is the
position of the `x`-th zero, every array read in bounds. The padding bits of the last word count as zeros in the
routine; `p < n` says they are never reached, nor is the final `left > n` clamp taken. -/
theorem rg_select0_exact (words : List Nat) (factor n total x : Nat) (hf : 0 < factor) (hx1 : 1 ≤ x) (hx2 : x ≤ n - total)
    (htot : n - total ≤ RG.zeros words n) (hlen : words.length = n / 32 + 1) :
    ∃ p, RG.select0 words factor n total x = some p ∧ p < n ∧ (RG.allBits words)[p]? = some false ∧
      RG.zeros words p = x - 1 :=
  RG.select0_spec words factor n total x hf hx1 hx2 htot hlen

/-- `select0(x > n − ones)` answers `(uint)-1`, `select0(0)` answers 0 or `(uint)-1`. -/
theorem rg_select0_out_of_range (words : List Nat) (factor n total x : Nat) :
    (x > n - total → RG.select0 words factor n total x = some (2 ^ 32 - 1)) ∧
    (x = 0 → RG.select0 words factor n total x = some 0 ∨ RG.select0 words factor n total x = some (2 ^ 32 - 1)) := by
  refine ⟨fun h => by unfold RG.select0; rw [if_pos h], fun h => ?_⟩
  subst h
  unfold RG.select0
  exact Or.inl (by rw [if_neg (Nat.not_lt_zero _), if_pos rfl])

/-- Non-vacuity: the second zero of the 40-bit vector whose first word is 5 (bits 1 0 1 0 …) sits at position 3. -/
example : RG.select0 [5, 11] 1 40 5 2 = some 3 := by decide
example : RG.zeros [5, 11] 40 = 35 := by decide

/-- Non-vacuity: the third one of the 40-bit vector 0b…1011 0000…0101 sits at position 32. -/
example : RG.select1 [5, 11] 1 40 5 3 = some 32 := by decide

/-- The models of this file were written against the current text of the C++ functions they mirror (DESIGN.md §4.1). -/
theorem models_match_source_text :
    Generated.body_RG_rank1 = SourceText.body_RG_rank1 ∧
    Generated.body_RG_select1 = SourceText.body_RG_select1 ∧
    Generated.body_RG_select0 = SourceText.body_RG_select0 ∧
    Generated.body_RG_save = SourceText.body_RG_save ∧
    Generated.body_RG_load = SourceText.body_RG_load ∧
    Generated.body_RG_BuildRank = SourceText.body_RG_BuildRank ∧
    Generated.body_RG_BuildRankSub = SourceText.body_RG_BuildRankSub := ⟨rfl, rfl, rfl, rfl, rfl, rfl, rfl⟩

end CSD.Props.C19
