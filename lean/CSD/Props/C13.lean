/-
  C13 — Table scan and iterators: each member once, in ID order, sound protocol.

  For the models of the string iterators of PFC, RPFC, RPDAC and FMINDEX (table scan and scan of an ID range), of the
  contiguous ID iterator, and of the table scans of the hash kinds and of HASHRPDACBlocks.
-/
import CSD.Model.SourceText
import CSD.Generated.Bodies
import CSD.Lemmas.FMIter
import CSD.Lemmas.HashBlocksIter
import CSD.Lemmas.IdIter
import CSD.Lemmas.PFCLocate
import CSD.Lemmas.PFCRange
import CSD.Lemmas.RPDACIter
import CSD.Lemmas.RPFCIter

namespace CSD.Props.C13
open CSD CSD.PFC

/-- `extractTable()` of PFC: draining the iterator over `numElements` strings yields the sorted input; the `some`:
every read stays inside the text. -/
theorem pfc_table_scan (b : Nat) (S : List Str) (hv : validDict S = true) :
    PFC.table (PFC.build b S) = some S :=
  table_build b S (validDict_ne hv) (validDict_nulFree hv)

/-- The `k`-th string of the table scan is `extract(k)`. -/
theorem pfc_table_kth_is_extract (b : Nat) (S : List Str) (hv : validDict S = true)
    (k : Nat) (h1 : 1 ≤ k) (h2 : k ≤ S.length) :
    ∃ T, PFC.table (PFC.build b S) = some T ∧ T.length = (PFC.build b S).elements ∧
      PFC.extract (PFC.build b S) k = some T[k - 1]? :=
  ⟨S, table_build b S (validDict_ne hv) (validDict_nulFree hv), rfl, extract_build b S (validDict_nulFree hv) k h1 h2⟩

/-- Scans starting at any in-bucket offset: the string iterator over the ID range `[left, right]`
(`IteratorDictStringPFC` as `extractPrefix` opens it: header copied, `offset − 1` strings decoded, then
`right − left + 1` calls of `next` across bucket boundaries) yields the members with those IDs, in order, and stops
there. -/
theorem pfc_range_scan_exact (b : Nat) (S : List Str) (hv : validDict S = true) (left right : Nat)
    (h1 : 1 ≤ left) (h2 : left ≤ right) (h3 : right ≤ S.length) :
    PFC.scanRange (PFC.build b S) left right = some ((S.drop (left - 1)).take (right - left + 1)) :=
  scanRange_build b S (validDict_nulFree hv) left right h1 h2 h3

/-- ID iterators: a contiguous range is enumerated once each, ascending; the empty encoding yields nothing. -/
theorem id_iterator_protocol (left right : Nat) (h1 : 1 ≤ left) (h2 : left ≤ right) (h3 : right < 2 ^ 64) :
    IdIter.Contig.drain (right - left + 2) (IdIter.Contig.mk' left right)
      = (List.range (right - left + 1)).map (· + left) ∧
    ∀ fuel, IdIter.Contig.drain fuel (IdIter.Contig.mk' 0 0) = [] :=
  ⟨IdIter.contig_drain left right h1 h2 h3, IdIter.contig_empty⟩

example : validDict [[0x61], [0x61, 0x62], [0x62]] = true := by decide

/-- The models of this file were written against the current text of the C++ functions they mirror (DESIGN.md §4.1). -/
theorem models_match_source_text :
    Generated.body_PFC_ctor = SourceText.body_PFC_ctor ∧
    Generated.body_PFC_getHeader = SourceText.body_PFC_getHeader ∧
    Generated.body_PFC_decodeNextString = SourceText.body_PFC_decodeNextString ∧
    Generated.body_PFC_extractTable = SourceText.body_PFC_extractTable ∧
    Generated.body_PFCIter_ctor = SourceText.body_PFCIter_ctor ∧
    Generated.body_PFCIter_next = SourceText.body_PFCIter_next ∧
    Generated.body_PFCIter_decodeNext = SourceText.body_PFCIter_decodeNext := ⟨rfl, rfl, rfl, rfl, rfl, rfl, rfl⟩

/-- `StringDictionaryFMINDEX::extractTable`: the iterator (`IteratorDictStringFMINDEX`: row 2 for the last ID,
`ID + 3` otherwise, one `extract_id` per `next`) yields the members in ID order; every `extract_id` stays inside the
index and its result buffer. -/
theorem fmindex_table_scan_exact {S : List Str} {L : List FM.Row} {d : FM.Dict} (hv : validDict S = true)
    (hd : FM.DictOK S L d) (hml : ∀ s ∈ S, s.length < d.maxlength) :
    d.extractTable = some (S.map FM.symsOf) := FM.extractTable_spec hv hd hml

/-- A scan over the IDs `i + 1 … i + k` (what `extractPrefix` opens on the range of `locatePrefix`) yields
`S[i], …, S[i + k - 1]`. -/
theorem fmindex_range_scan_exact {S : List Str} {L : List FM.Row} {d : FM.Dict} (hv : validDict S = true)
    (hd : FM.DictOK S L d) (hml : ∀ s ∈ S, s.length < d.maxlength) (k i : Nat) (h : i + k ≤ S.length) :
    d.drain k { processed := i + 1, scanneable := i + k + 1, last := d.elements }
      = some (((S.drop i).take k).map FM.symsOf) := FM.drain_spec hv hd hml k i k h (Nat.le_refl _)

/-- The FMINDEX iterator model was written against the current text of the C++ functions it mirrors. -/
theorem fm_iterator_models_match_source_text :
    Generated.body_FMINDEX_extractTable = SourceText.body_FMINDEX_extractTable ∧
    Generated.body_FMIter_next = SourceText.body_FMIter_next ∧
    Generated.body_FMIterDup_next = SourceText.body_FMIterDup_next := ⟨rfl, rfl, rfl⟩

/-- `extract(1), …, extract(n)` of RPDAC are the dictionary in order (the iterator is `rpdac_table_scan_exact`). -/
theorem rpdac_table_scan (d : RPDAC.D) (S : List Str) (r : RPDAC.Represents d S) :
    (List.range S.length).map (fun i => RPDAC.extract d (i + 1)) = S.map (fun s => some (RPDAC.bytesNat s)) := by
  apply List.ext_getElem
  · rw [List.length_map, List.length_map, List.length_range]
  · intro i _ h2
    have hi : i < S.length := List.length_map (fun s => some (RPDAC.bytesNat s)) ▸ h2
    rw [List.getElem_map, List.getElem_map, List.getElem_range, RPDAC.extract_represents d S r (i + 1),
      dif_pos ⟨Nat.succ_pos i, hi⟩]
    rfl

/-- `StringDictionaryRPDAC::extractTable`: the iterator (`IteratorDictStringRPDAC`: one DAC access and one expansion
per `next`) yields the members in ID order and reads no position past the list. -/
theorem rpdac_table_scan_exact (d : RPDAC.D) (S : List Str) (r : RPDAC.Represents d S) :
    RPDAC.extractTable d = some (S.map RPDAC.bytesNat) := RPDAC.extractTable_represents d S r

/-- The RPFC table scan (`IteratorDictStringRPFC` from bucket 1, offset 0, `elements` strings): the drained iterator
is the sorted input. -/
theorem rpfc_table_scan_exact {S : List Str} {d : RPFC.D} (hst : RPFC.Stores S d) (hv : validDict S = true) :
    RPFC.extractTable d = some S :=
  RPFC.extractTable_stores hst (validDict_ne hv)

/-- The `k`-th string of the RPFC table scan is `extract(k)`. -/
theorem rpfc_table_kth_is_extract {S : List Str} {d : RPFC.D} (hst : RPFC.Stores S d) (hv : validDict S = true)
    (k : Nat) (h1 : 1 ≤ k) (h2 : k ≤ S.length) :
    ∃ T, RPFC.extractTable d = some T ∧ T.length = d.elements ∧ RPFC.extract d k = some T[k - 1]? :=
  ⟨S, RPFC.extractTable_stores hst (validDict_ne hv), hst.elements.symm, RPFC.extract_stores hst k h1 h2⟩

/-- RPFC scans starting at any in-bucket offset: the iterator over the ID range `[left, right]` yields the members
with those IDs, in order. -/
theorem rpfc_range_scan_exact {S : List Str} {d : RPFC.D} (hst : RPFC.Stores S d) (left right : Nat)
    (h1 : 1 ≤ left) (h2 : left ≤ right) (h3 : right ≤ S.length) :
    RPFC.scanRange d left right = some ((S.drop (left - 1)).take (right - left + 1)) :=
  RPFC.scanRange_stores hst left right h1 h2 h3

/-- The RPFC iterator model was written against the current text of the C++ functions it mirrors. -/
theorem rpfc_iterator_models_match_source_text :
    Generated.body_RPFC_extractTable = SourceText.body_RPFC_extractTable ∧
    Generated.body_RPFCIter_ctor = SourceText.body_RPFCIter_ctor ∧
    Generated.body_RPFCIter_next = SourceText.body_RPFCIter_next ∧
    Generated.body_RPFCIter_decodeNext = SourceText.body_RPFCIter_decodeNext := ⟨rfl, rfl, rfl, rfl⟩

/-- The table scan of the blocks dictionary (`IteratorDictStringHRPDACBlocks`: part after part, local IDs
`1 … size of the part`, with `to_index() − starting_indexes[partIdx]` as the size) yields
`extract(1), …, extract(n)` and `hasNext` is false afterwards. -/
theorem blocks_table_scan_exact (cutSize : Nat) (tsizeOf : Nat → Nat) (S : List Str) (hne : S ≠ []) :
    Hash.tableBlocks (Hash.buildBlocks cutSize tsizeOf S) =
      some ((List.range S.length).map fun i => Hash.extractBlocks (Hash.buildBlocks cutSize tsizeOf S) (i + 1)) :=
  Hash.tableBlocks_build cutSize tsizeOf S hne

/-- When every part's table holds its block and has a size `nearest_prime` accepted (`PartsOK`, re-validated per run
by the driver), that scan lists `n` strings, every one a member, none twice. -/
theorem blocks_table_scan_each_member_once {cutSize : Nat} {tsizeOf : Nat → Nat} {S : List Str}
    (ok : Hash.PartsOK cutSize tsizeOf S) (hne : S ≠ []) :
    ∃ L : List Str, Hash.tableBlocks (Hash.buildBlocks cutSize tsizeOf S) = some (L.map some) ∧
      L.length = S.length ∧ L.Nodup ∧ ∀ w ∈ L, w ∈ S :=
  Hash.tableBlocks_each_once ok hne

/-- The single-table hash kinds fill the table with `extract(1), …, extract(n)` (`IteratorDictStringVector`): over a
good table (`GoodDict`: the hypotheses of the hash theorems of C01 / C02) that lists `n` strings, every one a member,
none twice. -/
theorem hash_table_scan_each_member_once {d : Hash.HDict} (g : Hash.GoodDict d) :
    ∃ L : List Str, Hash.tableHash d = L.map some ∧ L.length = d.S.length ∧ L.Nodup ∧ ∀ w ∈ L, w ∈ d.S :=
  Hash.tableHash_each_once g

/-- The blocks iterator model was written against the current text of the C++ functions it mirrors. -/
theorem blocks_iterator_models_match_source_text :
    Generated.body_Blocks_extractTable = SourceText.body_Blocks_extractTable ∧
    Generated.body_BlocksIter_to_index = SourceText.body_BlocksIter_to_index ∧
    Generated.body_BlocksIter_hasNext = SourceText.body_BlocksIter_hasNext ∧
    Generated.body_BlocksIter_next = SourceText.body_BlocksIter_next := ⟨rfl, rfl, rfl, rfl⟩

end CSD.Props.C13
