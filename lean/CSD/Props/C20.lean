/-
  C20 — Re-Pair compression is lossless and never merges across string terminators.

  The compressor is modelled as a replacement system (which pair, which occurrences: free); the theorems hold for
  every run. The `repair` stream re-validates the grammar and compacted sequence the real compressor produces: rules
  well-founded and zero-free, expansion equal to the input, identifier width sufficient.
-/
import CSD.Model.SourceText
import CSD.Generated.Bodies
import CSD.Lemmas.RePair

namespace CSD.Props.C20
open CSD.RePair

/-- Expanding the final grammar and sequence reproduces the original sequence, for every run of the compressor. -/
theorem repair_lossless {g g' : Grammar} {seq seq' : List Nat} (h : Run g seq g' seq')
    (hvalid : ∀ x ∈ seq, x < g.terminals + g.rules.length) : g'.expand seq' = g.expand seq :=
  expand_run h hvalid

/-- No rule contains the terminator 0, so no rule spans two strings and each string remains addressable. -/
theorem repair_rules_zero_free {g g' : Grammar} {seq seq' : List Nat} (h : Run g seq g' seq')
    (hz : g.zeroFree = true) : g'.zeroFree = true :=
  zeroFree_run h hz

/-- Rules only refer to earlier symbols: rule expansion terminates. -/
theorem repair_rules_well_founded {g g' : Grammar} {seq seq' : List Nat} (h : Run g seq g' seq')
    (hw : g.wf = true) : g'.wf = true :=
  wf_run h hw

/-- The number of bits reported for a symbol, `bits(rules + terminals)`, suffices for every terminal and rule
identifier. -/
theorem repair_bits_suffice (g : Grammar) (x : Nat) (h : x ≤ g.rules.length + g.terminals) :
    x < 2 ^ bits (g.rules.length + g.terminals) :=
  Nat.lt_of_le_of_lt h (lt_two_pow_bits _)

/-- Non-vacuity: one round on `a b a b 0` with the pair `(a, b)`. -/
example : Run ⟨256, []⟩ [97, 98, 97, 98, 0] ⟨256, [(97, 98)]⟩ [256, 256, 0] :=
  Run.step 97 98 (by decide) (by decide) (by decide) (by decide)
    (Repl.replace (Repl.replace (Repl.keep 0 Repl.nil))) (Run.refl _ _)

/-- The models of this file were written against the current text of the C++ functions they mirror (DESIGN.md §4.1). -/
theorem models_match_source_text :
    Generated.body_RePair_expandRule = SourceText.body_RePair_expandRule := rfl

end CSD.Props.C20
