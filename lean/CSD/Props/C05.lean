/-
  C05 — Substring search is exact: precisely the members that contain the pattern.

  For FMINDEX built with BWT sampling, the whole of `locateSubstr` — backward search, the walk of every row of the
  block to a sampled row or to the separator in front of the member, sorting, the duplicate-skipping iterator —
  yields exactly `Spec.substrIds S p`. Suffix sorting and the wavelet tree under the BWT are not modelled (the
  `fm-layer` stream compares the exported BWT / occ / samples of every run with the model's build). XBW is compared
  with `Spec.substrIds` by the correspondence stream only.
-/
import CSD.Model.SourceText
import CSD.Generated.Bodies
import CSD.Lemmas.FMIter
import CSD.Lemmas.IdIter

namespace CSD.Props.C05
open CSD CSD.Dups

/-- Each ID is reported once however often the pattern occurs in the string: over the sorted occurrence array with
its sentinel 0 the iterator yields the list without adjacent repetitions, reading only cells `0 .. num_occ`. -/
theorem duplicates_iterator_exact (occs : List Nat) (hpos : ∀ v ∈ occs, v ≠ 0) :
    It.drain (occs.length + 1) ⟨occs ++ [0], 0, occs.length⟩ = some (dedupAdj occs) :=
  drain_all occs hpos

/-- The property in list form, for a kind without a model (XBW). -/
def SubstringSearchStatement (locateSubstr : List Str → Str → Option (List Nat)) : Prop :=
  ∀ S p, validDict S = true → p ≠ [] → locateSubstr S p = some (Spec.substrIds S p)

example : dedupAdj [2, 2, 5, 7, 7, 7] = [2, 5, 7] ∧ Spec.substrIds [[0x61, 0x62], [0x62]] [0x62] = [1, 2] := by
  decide

/-- The backward search shared by `SSA::locate_id`, `SSA::locateP` and `SSA::locate`, for every suffix array of a
text (`IsSA`: how it was sorted is not modelled): the result is the block of the rows whose suffix starts with the
pattern, or says that there is none (`BSpec`); `occ`, `alphabet` and the BWT are read in bounds and no unsigned
subtraction wraps. -/
theorem backward_search_exact {T : List Nat} {L : List FM.Row} {ix : FM.Index} (hSA : FM.IsSA T L)
    (hB : FM.Built T L ix) (pat : List Nat) (hne : pat ≠ []) (hall : ∀ c ∈ pat, c ≠ 0 ∧ c < 256) :
    ∃ res, FM.bsearch ix pat = some res ∧ FM.BSpec L pat res :=
  FM.bsearch_spec hSA hB pat hne hall

theorem block_size_is_occurrence_count {T : List Nat} {L : List FM.Row} (hSA : FM.IsSA T L) (P : List Nat) :
    FM.occs L P = FM.occurrences P T := FM.occs_eq_occurrences hSA P

/-- `StringDictionaryFMINDEX::locateSubstr` with a sampling step `> 0` (`BuiltS`): the iterator yields the IDs of
exactly the members that contain the pattern, each once, ascending. Every row of the block is resolved by the LF
walk, through a sampled row or the separator in front of the member; no structure is read out of bounds and the walk
terminates. -/
theorem fmindex_substring_search_exact {S : List Str} {L : List FM.Row} {d : FM.Dict} (hv : validDict S = true)
    (hd : FM.DictOK S L d) (hS : FM.BuiltS (FM.mkText S) L d.ix) (p : Str) (hp : p.all validByte = true)
    (hne : p ≠ []) : d.locateSubstr p = some (Spec.substrIds S p) :=
  FM.locateSubstr_spec hv hd hS p hp hne

/-- `StringDictionaryFMINDEX::extractSubstr` (`SSA::locate`, `std::sort`, the sentinel `0` behind the last ID, then
`IteratorDictStringFMINDEXDuplicates`): NULL when no member contains the pattern, otherwise the strings of exactly
the members that contain it, each once, in ID order. The duplicate-skipping loop stops at the sentinel because no ID
is 0. -/
theorem fmindex_extract_substr_exact {S : List Str} {L : List FM.Row} {d : FM.Dict} (hv : validDict S = true)
    (hd : FM.DictOK S L d) (hS : FM.BuiltS (FM.mkText S) L d.ix) (hml : ∀ s ∈ S, s.length < d.maxlength)
    (p : Str) (hp : p.all validByte = true) (hne : p ≠ []) :
    d.extractSubstr p =
      some (if Spec.substrIds S p = [] then none
            else some ((Spec.substrIds S p).map fun id => FM.symsOf (S[id - 1]?.getD []))) :=
  FM.extractSubstr_spec hv hd hS hml p hp hne

/-- When no member contains the pattern, `locateSubstr` yields no ID and `extractSubstr` returns the NULL iterator. -/
theorem fmindex_absent_pattern_yields_nothing {S : List Str} {L : List FM.Row} {d : FM.Dict} (hv : validDict S = true)
    (hd : FM.DictOK S L d) (hS : FM.BuiltS (FM.mkText S) L d.ix) (hml : ∀ s ∈ S, s.length < d.maxlength)
    (p : Str) (hp : p.all validByte = true) (hne : p ≠ []) (hno : ∀ s ∈ S, isSubstr p s = false) :
    d.locateSubstr p = some [] ∧ d.extractSubstr p = some none := by
  have hnil : Spec.substrIds S p = [] := by
    apply List.eq_nil_iff_forall_not_mem.mpr
    intro id hid
    obtain ⟨i, hi, _, hsub⟩ := (FM.mem_substrIds S p id).mp hid
    rw [hno _ (List.getElem_mem hi)] at hsub
    cases hsub
  refine ⟨?_, ?_⟩
  · rw [FM.locateSubstr_spec hv hd hS p hp hne, hnil]
  · rw [FM.extractSubstr_spec hv hd hS hml p hp hne, hnil]; rfl

/-- The sorted-and-deduplicated list of the model is what the duplicate-skipping iterator yields. -/
theorem fmindex_dedup_is_the_iterator (l : List Nat) : FM.dedupAdj l = CSD.Dups.dedupAdj l := FM.dedupAdj_eq_dups l

/-- The hypotheses hold for the model's own build, for every `S` and every step `> 0`. -/
theorem fmindex_substring_hypotheses_hold (S : List Str) (step : Nat) (h : 0 < step) :
    FM.DictOK S (FM.sortRows (FM.mkText S)) (FM.buildDict S step) ∧
    FM.BuiltS (FM.mkText S) (FM.sortRows (FM.mkText S)) (FM.buildDict S step).ix :=
  ⟨FM.dictOK_buildDict S step, FM.builtS_buildDict S step h⟩

/-- Both hypotheses hold for what the model builds from any text. -/
theorem backward_search_hypotheses_hold (T : List Nat) (step : Nat) :
    FM.IsSA T (FM.sortRows T) ∧ FM.Built T (FM.sortRows T) (FM.buildIndex T (FM.sortRows T) step) :=
  ⟨FM.isSA_sortRows T, FM.built_buildIndex step⟩

example : FM.occurrences [97, 98] (FM.mkText [[0x61, 0x62], [0x62, 0x61, 0x62]]) = 2 := by decide

/-- The FM-index models were written against the current text of the C++ functions they mirror. -/
theorem fm_models_match_source_text :
    Generated.body_SSA_locate_id = SourceText.body_SSA_locate_id ∧
    Generated.body_SSA_locateP = SourceText.body_SSA_locateP ∧
    Generated.body_SSA_locate = SourceText.body_SSA_locate ∧
    Generated.body_SSA_extract_id = SourceText.body_SSA_extract_id ∧
    Generated.body_SSA_build_index = SourceText.body_SSA_build_index ∧
    Generated.body_SSA_build_bwt = SourceText.body_SSA_build_bwt ∧
    Generated.body_FMINDEX_ctor = SourceText.body_FMINDEX_ctor ∧
    Generated.body_FMINDEX_locate = SourceText.body_FMINDEX_locate ∧
    Generated.body_FMINDEX_extract = SourceText.body_FMINDEX_extract ∧
    Generated.body_FMINDEX_locatePrefix = SourceText.body_FMINDEX_locatePrefix ∧
    Generated.body_FMINDEX_locateSubstr = SourceText.body_FMINDEX_locateSubstr ∧
    Generated.body_FMINDEX_build_ssa = SourceText.body_FMINDEX_build_ssa ∧
    Generated.body_FMINDEX_extractSubstr = SourceText.body_FMINDEX_extractSubstr ∧
    Generated.body_FMIterDup_next = SourceText.body_FMIterDup_next :=
  ⟨rfl, rfl, rfl, rfl, rfl, rfl, rfl, rfl, rfl, rfl, rfl, rfl, rfl, rfl⟩

end CSD.Props.C05
