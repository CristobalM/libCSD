/-
  C11 — The parallel build and the pool are free of data races.

  What a model can carry is the lock discipline; the accesses of the real code are monitored by ThreadSanitizer on
  the correspondence runs (partial).
-/
import CSD.Lemmas.PoolSafety

namespace CSD.Props.C11
open CSD.Pool

/-- Mutual exclusion: at most one thread, worker or producer, is inside a critical section of `shared_mutex`. -/
theorem mutex_exclusive {n : Nat} {tasks : List Nat} {s : State} (h : Reachable n tasks s)
    (i j : Nat) (hi : i < s.n ∧ (s.wpc i).holding = true) (hj : j < s.n ∧ (s.wpc j).holding = true) :
    i = j ∧ s.prod.holding = false :=
  have hI := inv_reachable h
  have hw : s.mutex = some (.worker i) := (hI.mutexW i).mpr hi
  ⟨hI.exclusive hi hj, Bool.eq_false_iff.mpr fun hp =>
    have hprod : s.mutex = some .prod := hI.mutexP.mpr hp
    nomatch hw.symm.trans hprod⟩

/-- The queue — the state shared between the producer and the workers — is changed only by the thread that owns
`shared_mutex`. -/
theorem queue_changes_under_mutex {n : Nat} {tasks : List Nat} {s s' : State} {t : Tid}
    (h : Reachable n tasks s) (hs : step s t = some s') (hch : s'.queue ≠ s.queue) :
    s.mutex = some t :=
  Pool.queue_changes_under_mutex (inv_reachable h) hs hch

example : Reachable 1 [3] (init 1 [3]) := Reachable.init

end CSD.Props.C11
