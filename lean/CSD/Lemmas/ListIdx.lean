/-! Index arithmetic: where `l[i]` lands in `l.filterMap f` (`cntB`) or `l.filter p`, where block `j` starts
in `Ls.flatten` (`pre`), `foldl max`, `exists_div_mod`, `drop_eq_cons`, `filter` on an index range, where an append
splits (`mark_unique`, `append_split`), where `takeWhile` stops. -/
namespace CSD.ListIdx

variable {α β : Type}

/-- Number of elements among the first `i` on which `f` is defined. -/
def cntB (f : α → Option β) (l : List α) (i : Nat) : Nat := ((l.take i).filterMap f).length

theorem filterMap_take_append_drop (f : α → Option β) (l : List α) (i : Nat) :
    (l.take i).filterMap f ++ (l.drop i).filterMap f = l.filterMap f := by
  rw [← List.filterMap_append, List.take_append_drop]

theorem filterMap_getElem? (f : α → Option β) (l : List α) (i : Nat) (hi : i < l.length) (b : β)
    (hb : f l[i] = some b) : (l.filterMap f)[cntB f l i]? = some b := by
  rw [← filterMap_take_append_drop f l i, List.drop_eq_getElem_cons hi, List.filterMap_cons_some hb, cntB,
    List.getElem?_append_right (Nat.le_refl _), Nat.sub_self, List.getElem?_cons_zero]

theorem getElem?_filter_countP (p : α → Bool) (L : List α) (j : Nat) (hj : j < L.length)
    (hp : p L[j] = true) : (L.filter p)[(L.take j).countP p]? = some L[j] := by
  have := filterMap_getElem? (Option.guard (p ·)) L j hj L[j] (by simp [Option.guard, hp])
  rwa [cntB, List.filterMap_eq_filter, ← List.countP_eq_length_filter] at this

theorem count_true_take_map (p : α → Bool) (L : List α) (j : Nat) (hj : j < L.length)
    (hp : p L[j] = true) : ((L.map p).take (j + 1)).count true = (L.take j).countP p + 1 := by
  rw [← List.map_take, List.count_eq_countP, List.countP_map, List.take_succ_eq_append_getElem hj,
    List.countP_append, List.countP_singleton]
  simp only [Function.comp_apply, hp, beq_self_eq_true, ↓reduceIte]
  congr 1
  exact List.countP_congr (fun a _ => by simp)

theorem cntB_succ_some (f : α → Option β) (l : List α) (i : Nat) (hi : i < l.length) (b : β)
    (hb : f l[i] = some b) : cntB f l (i + 1) = cntB f l i + 1 := by
  unfold cntB
  rw [List.take_succ_eq_append_getElem hi, List.filterMap_append]
  simp [hb]

theorem cntB_succ_none (f : α → Option β) (l : List α) (i : Nat) (hi : i < l.length)
    (hb : f l[i] = none) : cntB f l (i + 1) = cntB f l i := by
  unfold cntB
  rw [List.take_succ_eq_append_getElem hi, List.filterMap_append]
  simp [hb]

theorem filterMap_take (f : α → Option β) (l : List α) (i : Nat) :
    (l.filterMap f).take (cntB f l i) = (l.take i).filterMap f := by
  rw [← filterMap_take_append_drop f l i]
  exact List.take_left' rfl

theorem cntB_length (f : α → Option β) (l : List α) : cntB f l l.length = (l.filterMap f).length := by
  unfold cntB; rw [List.take_length]

theorem cntB_le (f : α → Option β) (l : List α) (i : Nat) : cntB f l i ≤ (l.filterMap f).length := by
  rw [← filterMap_take_append_drop f l i, List.length_append]
  exact Nat.le_add_right _ _

theorem cntB_lt (f : α → Option β) (l : List α) (i : Nat) (hi : i < l.length) (b : β)
    (hb : f l[i] = some b) : cntB f l i < (l.filterMap f).length := by
  have h := cntB_le f l (i + 1)
  rwa [cntB_succ_some f l i hi b hb] at h

theorem exists_of_filterMap_getElem? (f : α → Option β) : ∀ (l : List α) (j : Nat) (b : β),
    (l.filterMap f)[j]? = some b → ∃ i, ∃ hi : i < l.length, f l[i] = some b ∧ cntB f l i = j
  | [], j, b, h => by simp at h
  | x :: l, j, b, h => by
    cases hx : f x with
    | none =>
      rw [List.filterMap_cons_none hx] at h
      obtain ⟨i, hi, hb, hc⟩ := exists_of_filterMap_getElem? f l j b h
      exact ⟨i + 1, Nat.succ_lt_succ hi, hb, by simpa [cntB, hx] using hc⟩
    | some c =>
      rw [List.filterMap_cons_some hx] at h
      cases j with
      | zero => exact ⟨0, Nat.zero_lt_succ _, by simpa [hx] using h, rfl⟩
      | succ j =>
        obtain ⟨i, hi, hb, hc⟩ := exists_of_filterMap_getElem? f l j b h
        exact ⟨i + 1, Nat.succ_lt_succ hi, hb, by simpa [cntB, hx] using hc⟩

/-- Elements before block `j`. -/
def pre (Ls : List (List α)) (j : Nat) : Nat := ((Ls.take j).map List.length).sum

theorem pre_eq_length_flatten_take (Ls : List (List α)) (j : Nat) : pre Ls j = (Ls.take j).flatten.length := by
  simp [pre, List.length_flatten]

theorem pre_succ (Ls : List (List α)) (j : Nat) (hj : j < Ls.length) : pre Ls (j + 1) = pre Ls j + Ls[j].length := by
  rw [pre, pre, List.take_succ_eq_append_getElem hj, List.map_append, List.sum_append, List.map_singleton,
    List.sum_singleton]

theorem pre_const {c : Nat} (Ls : List (List α)) (h : ∀ l ∈ Ls, l.length = c) (j : Nat) (hj : j ≤ Ls.length) :
    pre Ls j = c * j := by
  induction j with
  | zero => rfl
  | succ j ih => rw [pre_succ Ls j hj, ih (Nat.le_of_lt hj), h _ (List.getElem_mem hj), Nat.mul_succ]

theorem length_flatMap_const {f : α → List β} {c : Nat} (h : ∀ a, (f a).length = c) (l : List α) :
    (l.flatMap f).length = c * l.length := by
  induction l with
  | nil => rfl
  | cons a l ih => rw [List.flatMap_cons, List.length_append, h, ih, List.length_cons, Nat.mul_succ, Nat.add_comm]

theorem flatten_take_append_drop (Ls : List (List α)) (j : Nat) :
    (Ls.take j).flatten ++ (Ls.drop j).flatten = Ls.flatten := by
  rw [← List.flatten_append, List.take_append_drop]

theorem flatten_split (Ls : List (List α)) (j : Nat) (hj : j < Ls.length) :
    Ls.flatten = (Ls.take j).flatten ++ (Ls[j] ++ (Ls.drop (j + 1)).flatten) := by
  rw [← flatten_take_append_drop Ls j, List.drop_eq_getElem_cons hj, List.flatten_cons]

theorem flatten_getElem? (Ls : List (List α)) (j p : Nat) (hj : j < Ls.length) (hp : p < Ls[j].length) :
    Ls.flatten[pre Ls j + p]? = Ls[j][p]? := by
  rw [flatten_split Ls j hj, pre_eq_length_flatten_take, List.getElem?_append_right (Nat.le_add_right _ _), Nat.add_sub_cancel_left,
    List.getElem?_append_left hp]

theorem flatten_take (Ls : List (List α)) (j q : Nat) (hj : j < Ls.length) (hq : q ≤ Ls[j].length) :
    Ls.flatten.take (pre Ls j + q) = (Ls.take j).flatten ++ Ls[j].take q := by
  rw [flatten_split Ls j hj, pre_eq_length_flatten_take, List.take_append,
    List.take_of_length_le (Nat.le_add_right _ _), Nat.add_sub_cancel_left, List.take_append_of_le_length hq]

theorem flatten_take_pre (Ls : List (List α)) (j : Nat) : Ls.flatten.take (pre Ls j) = (Ls.take j).flatten := by
  rw [← flatten_take_append_drop Ls j, pre_eq_length_flatten_take]
  exact List.take_left' rfl

theorem pre_le (Ls : List (List α)) (j : Nat) : pre Ls j ≤ Ls.flatten.length := by
  rw [pre_eq_length_flatten_take, ← flatten_take_append_drop Ls j, List.length_append]
  exact Nat.le_add_right _ _

theorem pre_add_le (Ls : List (List α)) (j q : Nat) (hj : j < Ls.length) (hq : q ≤ Ls[j].length) :
    pre Ls j + q ≤ Ls.flatten.length := by
  rw [flatten_split Ls j hj, pre_eq_length_flatten_take, List.length_append, List.length_append]
  exact Nat.add_le_add_left (Nat.le_trans hq (Nat.le_add_right _ _)) _

theorem pre_add_lt (Ls : List (List α)) (j p : Nat) (hj : j < Ls.length) (hp : p < Ls[j].length) :
    pre Ls j + p < Ls.flatten.length := pre_add_le Ls j (p + 1) hj hp

theorem foldl_max_le_iff (g : α → Nat) (B : Nat) : ∀ (S : List α) (init : Nat),
    S.foldl (fun m s => max m (g s)) init ≤ B ↔ init ≤ B ∧ ∀ s ∈ S, g s ≤ B
  | [], init => by simp
  | a :: S, init => by
    rw [List.foldl_cons, foldl_max_le_iff g B S, Nat.max_le, List.forall_mem_cons, and_assoc]

theorem le_foldl_max (g : α → Nat) (S : List α) (init : Nat) : ∀ s ∈ S, g s ≤ S.foldl (fun m s => max m (g s)) init :=
  ((foldl_max_le_iff g _ S init).mp (Nat.le_refl _)).2

theorem exists_div_mod (b : Nat) (hb : 0 < b) (n : Nat) : ∃ q r, r < b ∧ n = b * q + r :=
  ⟨n / b, n % b, Nat.mod_lt n hb, (Nat.div_add_mod n b).symm⟩

theorem pre_mono (Ls : List (List α)) (j k : Nat) (hjk : j ≤ k) (hk : k ≤ Ls.length) : pre Ls j ≤ pre Ls k := by
  obtain ⟨d, rfl⟩ := Nat.exists_eq_add_of_le hjk
  induction d with
  | zero => exact Nat.le_refl _
  | succ d ih =>
    rw [← Nat.add_assoc, pre_succ Ls (j + d) hk]
    exact Nat.le_trans (ih (Nat.le_add_right _ _) (Nat.le_of_lt hk)) (Nat.le_add_right _ _)

theorem drop_eq_cons {l : List α} {i : Nat} {x : α} {t : List α} (h : l.drop i = x :: t) :
    l[i]? = some x ∧ l.drop (i + 1) = t := by
  have h1 := congrArg (·[0]?) h
  have h2 := congrArg (List.drop 1) h
  simp only [List.getElem?_drop, Nat.add_zero, List.getElem?_cons_zero, List.drop_drop, List.drop_succ_cons,
    List.drop_zero] at h1 h2
  exact ⟨h1, h2⟩

theorem filter_range {α : Type} (p : α → Bool) (S : List α) (lo hi : Nat) (h1 : 1 ≤ lo) (h2 : lo ≤ hi)
    (h : ∀ i (h : i < S.length), (p S[i] = true ↔ lo ≤ i + 1 ∧ i + 1 ≤ hi)) :
    S.filter p = (S.drop (lo - 1)).take (hi - lo + 1) := by
  -- `lo = l + 1`, `hi = l + 1 + e`
  obtain ⟨l, rfl⟩ := Nat.exists_eq_add_of_le' h1
  obtain ⟨e, rfl⟩ := Nat.exists_eq_add_of_le h2
  have hp (i : Nat) (hi' : i < S.length) : p S[i] = true ↔ l ≤ i ∧ i ≤ l + e := by
    rw [h i hi', Nat.add_right_comm l 1 e, Nat.add_le_add_iff_right, Nat.add_le_add_iff_right]
  rw [Nat.add_sub_cancel, Nat.add_sub_cancel_left]
  have hS : S = S.take l ++ ((S.drop l).take (e + 1) ++ (S.drop l).drop (e + 1)) := by
    rw [List.take_append_drop, List.take_append_drop]
  have below : ∀ a ∈ S.take l, ¬p a = true := by
    intro a ha
    obtain ⟨i, hm, rfl⟩ := List.mem_take_iff_getElem.mp ha
    rw [hp]
    exact fun h => Nat.not_le.mpr (Nat.lt_of_lt_of_le hm (Nat.min_le_left _ _)) h.1
  have inside : ∀ a ∈ (S.drop l).take (e + 1), p a = true := by
    intro a ha
    obtain ⟨i, hm, rfl⟩ := List.mem_take_iff_getElem.mp ha
    rw [List.getElem_drop, hp]
    exact ⟨Nat.le_add_right _ _, Nat.add_le_add_left (Nat.le_of_lt_succ (Nat.lt_of_lt_of_le hm (Nat.min_le_left _ _))) _⟩
  have above : ∀ a ∈ (S.drop l).drop (e + 1), ¬p a = true := by
    intro a ha
    obtain ⟨i, hm, rfl⟩ := List.mem_drop_iff_getElem.mp ha
    rw [List.getElem_drop, hp, Nat.add_le_add_iff_left]
    exact fun h => Nat.not_succ_le_self e (Nat.le_trans (Nat.le_add_right _ i) h.2)
  conv => lhs; rw [hS]
  rw [List.filter_append, List.filter_append, List.filter_eq_nil_iff.mpr below, List.filter_eq_self.mpr inside,
    List.filter_eq_nil_iff.mpr above, List.nil_append, List.append_nil]

theorem mark_unique {a b X : List α} {m : α} (h : a ++ [m] ++ b = X ++ [m]) (hm : m ∉ X) : a = X ∧ b = [] := by
  rcases List.eq_nil_or_concat b with rfl | ⟨b', l, rfl⟩
  · exact ⟨List.append_cancel_right ((List.append_nil _).symm.trans h), rfl⟩
  · rw [List.concat_eq_append, ← List.append_assoc] at h
    exact absurd ((List.append_inj' h rfl).1 ▸ List.mem_append_left b' (List.mem_append_right a List.mem_cons_self)) hm

theorem append_split {A B E R : List α} (h : A ++ B = E ++ R) (hl : E.length ≤ A.length) :
    ∃ w, A = E ++ w ∧ R = w ++ B := by
  have ht := congrArg (List.take E.length) h
  have hd := congrArg (List.drop E.length) h
  rw [List.take_append_of_le_length hl, List.take_left] at ht
  rw [List.drop_append_of_le_length hl, List.drop_left] at hd
  exact ⟨A.drop E.length, (List.take_append_drop E.length A).symm.trans (by rw [ht]), hd.symm⟩

theorem takeWhile_end (p : α → Bool) : ∀ (d : α) (L : List α), p d = true →
    ∃ c, (d :: L)[(L.takeWhile p).length]? = some c ∧ p c = true ∧
      ∀ s, (d :: L)[(L.takeWhile p).length + 1]? = some s → p s = false
  | d, [], hd => ⟨d, rfl, hd, nofun⟩
  | d, a :: L, hd => by
    cases ha : p a with
    | true =>
      simp only [List.takeWhile_cons, ha, ↓reduceIte, List.length_cons, List.getElem?_cons_succ]
      exact takeWhile_end p a L ha
    | false =>
      simp only [List.takeWhile_cons, ha, Bool.false_eq_true, ↓reduceIte, List.length_nil]
      exact ⟨d, rfl, hd, fun s hs => Option.some.inj hs ▸ ha⟩

end CSD.ListIdx
