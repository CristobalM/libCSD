import CSD.Model.RG
import CSD.Lemmas.ListIdx

/-! `cnt f b m`, the number of positions `k < m` of a bit stream `f` that hold `b`, is the one notion behind
`popcount`, `popcount8`, `ones`, `zeros`, `Rs` and `Rs0`. A word is the stream `j.testBit`, the vector the stream
`access words`; that it reads a zero word outside the array makes `zeros` (a subtraction) a count for every `m`. -/
namespace CSD.RG

def cnt (f : Nat → Bool) (b : Bool) (m : Nat) : Nat := ((List.range m).map f).count b

theorem cnt_zero (f : Nat → Bool) (b : Bool) : cnt f b 0 = 0 := rfl

theorem cnt_succ (f : Nat → Bool) (b : Bool) (m : Nat) :
    cnt f b (m + 1) = cnt f b m + if f m = b then 1 else 0 := by
  unfold cnt
  rw [List.range_succ, List.map_append, List.count_append, List.map_singleton, List.count_singleton]
  simp only [beq_iff_eq]

theorem cnt_mono (f : Nat → Bool) (b : Bool) {a c : Nat} (h : a ≤ c) : cnt f b a ≤ cnt f b c := by
  induction h with
  | refl => exact Nat.le_refl _
  | step _ ih => exact Nat.le_trans ih (by rw [cnt_succ]; exact Nat.le_add_right _ _)

theorem cnt_add (f : Nat → Bool) (b : Bool) (t q : Nat) :
    cnt f b (t + q) = cnt f b t + cnt (fun k => f (t + k)) b q := by
  induction q with
  | zero => rfl
  | succ q ih => rw [← Nat.add_assoc, cnt_succ, ih, cnt_succ, Nat.add_assoc]

theorem cnt_congr {f g : Nat → Bool} (b : Bool) {m : Nat} (h : ∀ k, k < m → f k = g k) : cnt f b m = cnt g b m := by
  unfold cnt
  rw [List.map_congr_left fun k hk => h k (List.mem_range.mp hk)]

theorem cnt_true_add_false (f : Nat → Bool) (m : Nat) : cnt f true m + cnt f false m = m := by
  induction m with
  | zero => rfl
  | succ m ih =>
    rw [cnt_succ, cnt_succ, Nat.add_add_add_comm, ih]
    cases f m <;> rfl

theorem sub_cnt_true (f : Nat → Bool) (m : Nat) : m - cnt f true m = cnt f false m :=
  Nat.sub_eq_of_eq_add' (cnt_true_add_false f m).symm

/-- Every test the select loops make is an instance. -/
theorem cnt_lt_succ_iff {f : Nat → Bool} {b : Bool} {p : Nat} (h : f p = b) (m : Nat) :
    cnt f b m < cnt f b p + 1 ↔ m ≤ p := by
  refine ⟨fun hm => Nat.le_of_not_lt fun hlt => ?_, fun hm => Nat.lt_succ_of_le (cnt_mono f b hm)⟩
  have := cnt_mono f b (Nat.succ_le_of_lt hlt)
  rw [cnt_succ, if_pos h] at this
  exact Nat.lt_irrefl _ (Nat.lt_of_lt_of_le hm this)

theorem exists_nth (f : Nat → Bool) (b : Bool) {x : Nat} (h1 : 1 ≤ x) :
    ∀ {N : Nat}, x ≤ cnt f b N → ∃ p, p < N ∧ f p = b ∧ cnt f b p + 1 = x
  | 0, h => absurd (Nat.le_trans h1 h) (Nat.not_succ_le_zero 0)
  | N + 1, h => by
    by_cases hN : x ≤ cnt f b N
    · obtain ⟨p, hp, hb⟩ := exists_nth f b h1 hN
      exact ⟨p, Nat.lt_succ_of_lt hp, hb⟩
    · rw [cnt_succ] at h
      by_cases hb : f N = b
      · rw [if_pos hb] at h
        exact ⟨N, Nat.lt_succ_self N, hb, Nat.le_antisymm (Nat.lt_of_not_le hN) h⟩
      · rw [if_neg hb] at h
        exact absurd h hN

theorem count_take (l : List Bool) (m : Nat) : (l.take m).count true = cnt (fun i => l.getD i false) true m := by
  induction m with
  | zero => rfl
  | succ m ih =>
    rw [List.take_add_one, List.count_append, ih, cnt_succ, List.getD_eq_getElem?_getD]
    cases l[m]? with
    | none => rfl
    | some v => cases v <;> rfl

theorem bitsOf_length (w : Nat) : (bitsOf w).length = 32 := by simp [bitsOf]

theorem allBits_length (words : List Nat) : (allBits words).length = 32 * words.length :=
  ListIdx.length_flatMap_const bitsOf_length words

theorem allBits_take (words : List Nat) (k : Nat) :
    (allBits words).take (32 * k) = allBits (words.take k) := by
  induction words generalizing k with
  | nil => simp [allBits]
  | cons w ws ih =>
    cases k with
    | zero => simp [allBits]
    | succ k =>
      simp only [allBits, List.flatMap_cons, List.take_succ_cons] at ih ⊢
      have : 32 * (k + 1) = (bitsOf w).length + 32 * k := by rw [bitsOf_length, Nat.mul_succ, Nat.add_comm]
      rw [this, List.take_length_add_append, ih]

theorem allBits_getElem?_word (words : List Nat) {k q : Nat} (hk : k < words.length) (hq : q < 32) :
    (allBits words)[32 * k + q]? = some (words[k].testBit q) := by
  have hk' : k < (words.map bitsOf).length := by rw [List.length_map]; exact hk
  have hb : (words.map bitsOf)[k] = bitsOf words[k] := List.getElem_map ..
  have := ListIdx.flatten_getElem? (words.map bitsOf) k q hk' (by rw [hb, bitsOf_length]; exact hq)
  rw [ListIdx.pre_const _ (fun l hl => by obtain ⟨w, _, rfl⟩ := List.mem_map.mp hl; exact bitsOf_length w) k
    (Nat.le_of_lt hk'), hb] at this
  rw [allBits, List.flatMap_def, this]
  simp [bitsOf, hq]

theorem access_getElem (words : List Nat) {k q : Nat} (hk : k < words.length) (hq : q < 32) :
    access words (32 * k + q) = words[k].testBit q := by
  unfold access W
  rw [Nat.mul_add_div (by decide), Nat.mul_add_mod, Nat.div_eq_of_lt hq, Nat.mod_eq_of_lt hq, Nat.add_zero,
    List.getD_eq_getElem?_getD, List.getElem?_eq_getElem hk]
  rfl

theorem allBits_getElem? (words : List Nat) (i : Nat) (h : i < 32 * words.length) :
    (allBits words)[i]? = some (access words i) := by
  have hk : i / 32 < words.length := (Nat.div_lt_iff_lt_mul (by decide)).mpr (Nat.mul_comm 32 _ ▸ h)
  have hq : i % 32 < 32 := Nat.mod_lt i (by decide)
  rw [← Nat.div_add_mod i 32, allBits_getElem?_word words hk hq, access_getElem words hk hq]

theorem allBits_getD (words : List Nat) (i : Nat) : (allBits words).getD i false = access words i := by
  rw [List.getD_eq_getElem?_getD]
  by_cases h : i < 32 * words.length
  · rw [allBits_getElem? words i h]; rfl
  · have h := Nat.le_of_not_lt h
    unfold access W
    rw [List.getElem?_eq_none (by rw [allBits_length]; exact h), List.getD_eq_getElem?_getD,
      List.getElem?_eq_none ((Nat.le_div_iff_mul_le (by decide)).mpr (Nat.mul_comm .. ▸ h))]
    exact (Nat.zero_testBit _).symm

theorem sum_popcount (words : List Nat) : (words.map popcount).sum = (allBits words).count true := by
  induction words with
  | nil => rfl
  | cons w ws ih => simp [allBits, List.flatMap_cons, List.count_append, popcount] at ih ⊢; omega

theorem sum_popcount_take (words : List Nat) (k : Nat) : ((words.take k).map popcount).sum = ones words (32 * k) := by
  unfold ones
  rw [sum_popcount, allBits_take]

theorem Rs_eq (words : List Nat) (factor j : Nat) : Rs words factor j = ones words (32 * (j * factor)) :=
  sum_popcount_take words (j * factor)

theorem Rs_zero (words : List Nat) (factor : Nat) : Rs words factor 0 = 0 := by simp [Rs]

theorem Rs0_zero (words : List Nat) (factor : Nat) : Rs0 words factor 0 = 0 := by simp [Rs0]

theorem Rs_le (words : List Nat) (factor j : Nat) : Rs words factor j ≤ 32 * words.length := by
  rw [Rs_eq, ones, ← allBits_length]
  exact Nat.le_trans List.count_le_length (List.length_take_le' _ _)

theorem ones_eq_cnt (words : List Nat) (m : Nat) : ones words m = cnt (access words) true m := by
  unfold ones
  rw [count_take, cnt_congr true fun i _ => allBits_getD words i]

theorem ones_le (words : List Nat) (m : Nat) : ones words m ≤ m :=
  Nat.le_trans List.count_le_length (List.length_take_le m _)

/-- Plain definition: zeros among the first `m` positions. -/
def zeros (words : List Nat) (m : Nat) : Nat := m - ones words m

theorem zeros_eq_cnt (words : List Nat) (m : Nat) : zeros words m = cnt (access words) false m := by
  unfold zeros
  rw [ones_eq_cnt]
  exact sub_cnt_true _ m

theorem Rs0_eq (words : List Nat) (factor j : Nat) : Rs0 words factor j = zeros words (32 * (j * factor)) := by
  unfold Rs0 zeros W
  rw [Rs_eq, Nat.mul_comm]

theorem popcount_eq_cnt (j : Nat) : popcount j = cnt j.testBit true 32 := rfl
theorem popcount8_eq_cnt (j : Nat) : popcount8 j = cnt j.testBit true 8 := rfl
theorem sub_popcount (j : Nat) : 32 - popcount j = cnt j.testBit false 32 := sub_cnt_true j.testBit 32
theorem sub_popcount8 (j : Nat) : 8 - popcount8 j = cnt j.testBit false 8 := sub_cnt_true j.testBit 8

theorem testBit_shiftRight_fun (j t : Nat) : (j >>> t).testBit = fun k => j.testBit (t + k) :=
  funext fun _ => Nat.testBit_shiftRight j

theorem cnt_word (words : List Nat) {k : Nat} (hk : k < words.length) (b : Bool) {q : Nat} (hq : q ≤ 32) :
    cnt (fun i => access words (32 * k + i)) b q = cnt words[k].testBit b q :=
  cnt_congr b fun _ hi => access_getElem words hk (Nat.lt_of_lt_of_le hi hq)

theorem ones_word (words : List Nat) {k q : Nat} (hk : k < words.length) (hq : q ≤ 32) :
    ones words (32 * k + q) = ones words (32 * k) + cnt words[k].testBit true q := by
  rw [ones_eq_cnt, cnt_add, cnt_word words hk true hq, ← ones_eq_cnt]

theorem popcount_mask (w : Nat) {r : Nat} (hr : r ≤ 32) : popcount (w &&& (2 ^ r - 1)) = cnt w.testBit true r := by
  have testBit_mask : ∀ k, (w &&& (2 ^ r - 1)).testBit k = (w.testBit k && decide (k < r)) := fun k => by
    rw [Nat.testBit_and, Nat.testBit_two_pow_sub_one]
  have h : ∀ d, cnt (w &&& (2 ^ r - 1)).testBit true (r + d) = cnt w.testBit true r := by
    intro d
    induction d with
    | zero => exact cnt_congr true fun k hk => by rw [testBit_mask, decide_eq_true (show k < r from hk), Bool.and_true]
    | succ d ih =>
      rw [← Nat.add_assoc, cnt_succ, ih, testBit_mask, decide_eq_false (Nat.not_lt.mpr (Nat.le_add_right r d)),
        Bool.and_false]
      rfl
  have := h (32 - r)
  rwa [Nat.add_sub_cancel' hr] at this

/-- The word asked for is that of `i + 1`; it exists for every `i < n` because `n / 32 + 1` words are allocated. -/
theorem rank1_eq_ones (words : List Nat) (factor i : Nat) (hi : (i + 1) / 32 < words.length) :
    rank1 words factor i = ones words (i + 1) := by
  unfold rank1
  simp only [W]
  generalize i + 1 = m at hi ⊢
  have hr : m % 32 ≤ 32 := Nat.le_of_lt (Nat.mod_lt m (by decide))
  have hsb : m / (32 * factor) * factor ≤ m / 32 := by
    rw [← Nat.div_div_eq_div_mul]
    exact Nat.div_mul_le_self _ _
  rw [Rs_eq]
  generalize m / (32 * factor) * factor = p at hsb ⊢
  -- ones up to `m` = ones before word `p` + whole words `p .. m/32` + the low `m % 32` bits of word `m/32`
  have hlast := ones_word words hi hr
  rw [Nat.div_add_mod] at hlast
  have hsplit : words.take (m / 32) = words.take p ++ (words.drop p).take (m / 32 - p) := by
    rw [← List.take_add, Nat.add_sub_cancel' hsb]
  rw [hlast, ← sum_popcount_take words (m / 32), hsplit, List.map_append, List.sum_append, sum_popcount_take words p,
    popcount_mask _ hr, List.getD_eq_getElem?_getD, List.getElem?_eq_getElem hi]
  rfl

end CSD.RG
