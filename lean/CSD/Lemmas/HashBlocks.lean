import CSD.Lemmas.BlockLayout
import CSD.Lemmas.HashSearch
import CSD.Lemmas.Sorted

/-! `StringDictionaryHASHRPDACBlocks`: `locate` and `extract` route by `binary_search_before_index` over the samples /
starting indexes to one part and shift its answer by the number of strings before it. -/
namespace CSD.Hash
open CSD CSD.Blocks

theorem findIdx_eq_of {α : Type} (P : α → Bool) (v : List α) (k : Nat) (hk : k ≤ v.length)
    (hb : ∀ j (hj : j < k), P (v[j]'(Nat.lt_of_lt_of_le hj hk)) = false) (ha : ∀ h : k < v.length, P v[k] = true) :
    v.findIdx P = k := by
  rcases Nat.lt_or_eq_of_le hk with h | rfl
  · exact (List.findIdx_eq h).mpr ⟨ha h, fun j hj => hb j hj⟩
  · refine List.findIdx_eq_length.mpr fun x hx => ?_
    obtain ⟨j, hj, rfl⟩ := List.mem_iff_getElem.mp hx
    exact hb j hj

/-- `binary_search_before_index` answers `p` when everything before `p` is below `q`, everything behind `p` above
`q`, and `v[p]` not above `q`. No order axioms: the callers establish these three. -/
theorem searchBefore_spec {α : Type} (lt : α → α → Bool) (v : List α) (q : α) (p : Nat) (hp : p < v.length)
    (hbefore : ∀ j (hj : j < p), lt (v[j]'(by omega)) q = true)
    (hafter : ∀ j (_ : p < j) (hj : j < v.length), lt v[j] q = false ∧ lt q v[j] = true)
    (hat : lt q v[p] = false) :
    searchBefore lt v q = p := by
  unfold searchBefore
  cases hlt : lt v[p] q with
  | false =>
    -- `v[p]` is not below `q`: the lower bound is `p` itself
    rw [findIdx_eq_of _ v p (Nat.le_of_lt hp) (fun j hj => congrArg (!·) (hbefore j hj)) (fun _ => congrArg (!·) hlt)]
    dsimp only
    rw [if_neg (Nat.ne_of_lt hp)]
    rcases Nat.eq_zero_or_pos p with rfl | h0
    · rfl
    · rw [if_pos h0, List.getElem?_eq_getElem (Nat.lt_of_le_of_lt (Nat.sub_le p 1) hp), List.getElem?_eq_getElem hp]
      dsimp only
      rw [hat, Bool.and_false, if_neg Bool.false_ne_true]
  | true =>
    -- `v[p]` is below `q`: the lower bound is `p + 1`, possibly the end of the vector
    rw [findIdx_eq_of _ v (p + 1) hp
      (fun j hj => by
        rcases Nat.lt_or_eq_of_le (Nat.le_of_lt_succ hj) with h | rfl
        · exact congrArg (!·) (hbefore j h)
        · exact congrArg (!·) hlt)
      (fun h => congrArg (!·) (hafter (p + 1) (Nat.lt_succ_self p) h).1)]
    dsimp only
    by_cases he : p + 1 = v.length
    · rw [if_pos he, ← he, Nat.add_sub_cancel]
    · have hp1 : p + 1 < v.length := Nat.lt_of_le_of_ne hp he
      rw [if_neg he, if_pos (Nat.succ_pos p), Nat.add_sub_cancel, List.getElem?_eq_getElem hp,
        List.getElem?_eq_getElem hp1]
      dsimp only
      rw [hat, (hafter (p + 1) (Nat.lt_succ_self p) hp1).2]
      rfl

theorem sample_spec (bs : List (List Str)) (hne : ∀ b ∈ bs, b ≠ []) (hs : SortedLt bs.flatten)
    (j : Nat) (hj : j < bs.length) :
    ∃ (hj' : j < (samples bs).length), (samples bs)[j] ∈ bs[j] ∧
      ∀ y ∈ bs[j], y = (samples bs)[j] ∨ scmp (samples bs)[j] y < 0 := by
  have hsort := (List.pairwise_flatten.mp hs).1 bs[j] (List.getElem_mem hj)
  simp only [samples_eq_map bs hne, List.length_map, List.getElem_map]
  refine ⟨hj, ?_⟩
  cases hb : bs[j] with
  | nil => exact absurd hb (hne _ (List.getElem_mem hj))
  | cons s rest =>
    rw [hb] at hsort
    exact ⟨List.mem_cons_self, fun y hy => (List.mem_cons.mp hy).imp_right (List.rel_of_pairwise_cons hsort)⟩

theorem block_lt (bs : List (List Str)) (hs : SortedLt bs.flatten) (i j : Nat) (hij : i < j) (hj : j < bs.length)
    (x : Str) (hx : x ∈ bs[i]'(Nat.lt_trans hij hj)) (y : Str) (hy : y ∈ bs[j]) : scmp x y < 0 :=
  List.pairwise_iff_getElem.mp (List.pairwise_flatten.mp hs).2 i j (Nat.lt_trans hij hj) hj hij x hx y hy

/-- **Routing of `locate`**: a string of block `p` is sent to part `p`. -/
theorem route_str (bs : List (List Str)) (hne : ∀ b ∈ bs, b ≠ []) (hs : SortedLt bs.flatten)
    (p : Nat) (hp : p < bs.length) (q : Str) (hq : q ∈ bs[p]) :
    searchBefore slt (samples bs) q = p := by
  have hlen : (samples bs).length = bs.length := by rw [samples_eq_map bs hne, List.length_map]
  obtain ⟨hp', _, hmin⟩ := sample_spec bs hne hs p hp
  apply searchBefore_spec slt (samples bs) q p hp'
  · intro j hj
    obtain ⟨_, hjm, _⟩ := sample_spec bs hne hs j (Nat.lt_trans hj hp)
    exact slt_true.mpr (block_lt bs hs j p hj hp _ hjm q hq)
  · intro j hpj hj
    obtain ⟨_, hjm, _⟩ := sample_spec bs hne hs j (hlen ▸ hj)
    have := block_lt bs hs p j hpj (hlen ▸ hj) q hq _ hjm
    exact ⟨slt_false_of_gt this, slt_true.mpr this⟩
  · rcases hmin q hq with e | e
    · rw [← e]; exact slt_self q
    · exact slt_false_of_gt e

/-- **Routing of `extract`**: a position inside block `p` is sent to part `p`. -/
theorem route_pos (bs : List (List Str)) (hne : ∀ b ∈ bs, b ≠ [])
    (p : Nat) (hp : p < bs.length) (pos : Nat) (h1 : pre bs p ≤ pos) (h2 : pos < pre bs p + bs[p].length) :
    searchBefore (fun a b => decide (a < b)) (starts 0 bs) pos = p := by
  have hlen := starts_length bs 0
  have hget : ∀ j (hj : j < (starts 0 bs).length), (starts 0 bs)[j] = pre bs j := fun j hj =>
    Option.some.inj (by rw [← List.getElem?_eq_getElem hj, starts_getElem? bs 0 j (hlen ▸ hj), Nat.zero_add])
  apply searchBefore_spec _ (starts 0 bs) pos p (hlen ▸ hp)
  · intro j hj
    have hb : 0 < (bs[j]'(Nat.lt_trans hj hp)).length := List.length_pos_iff.mpr (hne _ (List.getElem_mem _))
    rw [hget, decide_eq_true_eq]
    exact Nat.lt_of_lt_of_le (Nat.lt_add_of_pos_right hb)
      (Nat.le_trans (pre_add_length_le bs j p hj (Nat.le_of_lt hp)) h1)
  · intro j hpj hj
    have hlt : pos < pre bs j := Nat.lt_of_lt_of_le h2 (pre_add_length_le bs p j hpj (Nat.le_of_lt (hlen ▸ hj)))
    rw [hget, decide_eq_false_iff_not, decide_eq_true_eq]
    exact ⟨Nat.lt_asymm hlt, hlt⟩
  · rw [hget, decide_eq_false_iff_not]
    exact Nat.not_lt.mpr h1

/-- The routing arguments need nothing of the cutting rule: they hold for any split of a sorted list into non-empty
blocks, with any dictionary `mk b` per block. `buildBlocks` is this over the blocks of `cut`. -/
def ofBlocks (mk : List Str → HDict) (bs : List (List Str)) : BDict :=
  { parts := bs.map mk, samples := samples bs, starts := starts 0 bs, n := bs.flatten.length }

theorem buildBlocks_eq (cutSize : Nat) (tsizeOf : Nat → Nat) (S : List Str) :
    buildBlocks cutSize tsizeOf S = ofBlocks (fun b => build (tsizeOf b.length) b) (cut cutSize S) := by
  unfold buildBlocks ofBlocks
  rw [cut_flatten]

section
variable (mk : List Str → HDict) (bs : List (List Str))

theorem extractBlocks_local (hne : ∀ b ∈ bs, b ≠ []) (p : Nat) (hp : p < bs.length) (c : Nat) (h1 : 1 ≤ c)
    (h2 : c ≤ bs[p].length) :
    extractBlocks (ofBlocks mk bs) (pre bs p + c) = extract (mk bs[p]) c := by
  obtain ⟨c, rfl⟩ : ∃ k, c = k + 1 := ⟨c - 1, (Nat.sub_add_cancel h1).symm⟩
  have hroute : searchBefore (fun a b => decide (a < b)) (starts 0 bs) (pre bs p + c) = p :=
    route_pos bs hne p hp _ (Nat.le_add_right _ _) (Nat.add_lt_add_left h2 _)
  have hin : ¬ (pre bs p + (c + 1) > bs.flatten.length ∨ pre bs p + (c + 1) = 0) := fun h =>
    h.elim (Nat.not_lt.mpr (ListIdx.pre_add_le bs p _ hp h2)) (Nat.succ_ne_zero _)
  -- unfold, route to part `p` (`hroute`), whose start is `pre bs p`
  simp only [extractBlocks, ofBlocks, if_neg hin, Nat.add_succ_sub_one, hroute, List.getElem?_map,
    List.getElem?_eq_getElem hp, starts_getElem? bs 0 p hp, Option.map_some, Nat.zero_add, Nat.add_sub_cancel_left]

theorem locateBlocks_local (hne : ∀ b ∈ bs, b ≠ []) (hs : SortedLt bs.flatten) (p : Nat) (hp : p < bs.length)
    (q : Str) (hq : q ∈ bs[p]) :
    locateBlocks (ofBlocks mk bs) q = if locate (mk bs[p]) q > 0 then locate (mk bs[p]) q + pre bs p else 0 := by
  have hroute : searchBefore slt (samples bs) q = p := route_str bs hne hs p hp q hq
  -- as in `extractBlocks_local`
  simp only [locateBlocks, ofBlocks, hroute, List.getElem?_map, List.getElem?_eq_getElem hp,
    starts_getElem? bs 0 p hp, Option.map_some, Nat.zero_add]

variable (hgood : ∀ b ∈ bs, GoodDict (mk b)) (hS : ∀ b, (mk b).S = b)
include hgood hS

theorem ofBlocks_locate_member (hne : ∀ b ∈ bs, b ≠ []) (hs : SortedLt bs.flatten) (q : Str) (hq : q ∈ bs.flatten) :
    1 ≤ locateBlocks (ofBlocks mk bs) q ∧ locateBlocks (ofBlocks mk bs) q ≤ bs.flatten.length ∧
    extractBlocks (ofBlocks mk bs) (locateBlocks (ofBlocks mk bs) q) = some q := by
  obtain ⟨b, hb, hqb⟩ := List.mem_flatten.mp hq
  obtain ⟨p, hp, rfl⟩ := List.mem_iff_getElem.mp hb
  obtain ⟨h1, h2, h3⟩ := member_round_trip (hgood _ hb) q (by rw [hS]; exact hqb)
  rw [hS] at h2
  rw [locateBlocks_local mk bs hne hs p hp q hqb, if_pos (show _ > 0 from h1), Nat.add_comm,
    extractBlocks_local mk bs hne p hp _ h1 h2]
  exact ⟨Nat.le_trans h1 (Nat.le_add_left _ _), ListIdx.pre_add_le bs p _ hp h2, h3⟩

theorem ofBlocks_extract_then_locate (hne : ∀ b ∈ bs, b ≠ []) (hs : SortedLt bs.flatten) (id : Nat) (h1 : 1 ≤ id)
    (h2 : id ≤ bs.flatten.length) :
    ∃ w, w ∈ bs.flatten ∧ extractBlocks (ofBlocks mk bs) id = some w ∧ locateBlocks (ofBlocks mk bs) w = id := by
  obtain ⟨p, hp, c, hc1, hc2, rfl⟩ := exists_block_of_id bs id h1 h2
  have hb : bs[p] ∈ bs := List.getElem_mem hp
  obtain ⟨w, hw, hwm, hwl⟩ := locate_extract (hgood _ hb) c hc1 (by rw [hS]; exact hc2)
  rw [hS] at hwm
  refine ⟨w, List.mem_flatten.mpr ⟨_, hb, hwm⟩, ?_, ?_⟩
  · rw [← hw, extractBlocks_local mk bs hne p hp c hc1 hc2]
  · rw [locateBlocks_local mk bs hne hs p hp w hwm, hwl, if_pos (show c > 0 from hc1), Nat.add_comm]

theorem ofBlocks_locate_absent (q : Str) (hq : q ∉ bs.flatten) : locateBlocks (ofBlocks mk bs) q = 0 := by
  unfold locateBlocks
  dsimp only
  split
  · rename_i part st hpp _
    obtain ⟨b, hb, rfl⟩ := List.mem_map.mp (List.mem_of_getElem? hpp)
    have : q ∉ (mk b).S := fun h => hq (List.mem_flatten.mpr ⟨b, hb, hS b ▸ h⟩)
    rw [locate_absent (hgood b hb) q this]
    rfl
  · rfl

end

/-- The hypotheses under which every part is a good hash dictionary. -/
structure PartsOK (cutSize : Nat) (tsizeOf : Nat → Nat) (S : List Str) : Prop where
  sorted : SortedLt S
  parts : ∀ b ∈ Blocks.cut cutSize S, b.length ≤ tsizeOf b.length ∧
    accepted (build (tsizeOf b.length) b).tsize = true

theorem part_good {cutSize : Nat} {tsizeOf : Nat → Nat} {S : List Str} (ok : PartsOK cutSize tsizeOf S)
    (b : List Str) (hb : b ∈ Blocks.cut cutSize S) : GoodDict (build (tsizeOf b.length) b) := by
  have hsb : SortedLt b := by
    have := ok.sorted
    rw [← cut_flatten cutSize S] at this
    exact (List.pairwise_flatten.mp this).1 b hb
  exact goodDict_build _ b (hsb.imp ne_of_scmp_lt) (ok.parts b hb).1 (ok.parts b hb).2

theorem blocks_locate_member {cutSize : Nat} {tsizeOf : Nat → Nat} {S : List Str}
    (ok : PartsOK cutSize tsizeOf S) (q : Str) (hq : q ∈ S) :
    1 ≤ locateBlocks (buildBlocks cutSize tsizeOf S) q ∧
    locateBlocks (buildBlocks cutSize tsizeOf S) q ≤ S.length ∧
    extractBlocks (buildBlocks cutSize tsizeOf S) (locateBlocks (buildBlocks cutSize tsizeOf S) q) = some q := by
  have := ofBlocks_locate_member _ _ (part_good ok) (fun _ => rfl) (cut_nonempty cutSize S)
  rw [cut_flatten, ← buildBlocks_eq] at this
  exact this ok.sorted q hq

/-- Absent strings: whichever part the samples select, it does not hold `q`. -/
theorem blocks_locate_absent {cutSize : Nat} {tsizeOf : Nat → Nat} {S : List Str}
    (ok : PartsOK cutSize tsizeOf S) (q : Str) (hq : q ∉ S) :
    locateBlocks (buildBlocks cutSize tsizeOf S) q = 0 := by
  have := ofBlocks_locate_absent _ _ (part_good ok) (fun _ => rfl) q
  rw [cut_flatten, ← buildBlocks_eq] at this
  exact this hq

theorem blocks_extract_then_locate {cutSize : Nat} {tsizeOf : Nat → Nat} {S : List Str}
    (ok : PartsOK cutSize tsizeOf S) (id : Nat) (h1 : 1 ≤ id) (h2 : id ≤ S.length) :
    ∃ w, w ∈ S ∧ extractBlocks (buildBlocks cutSize tsizeOf S) id = some w ∧
      locateBlocks (buildBlocks cutSize tsizeOf S) w = id := by
  have := ofBlocks_extract_then_locate _ _ (part_good ok) (fun _ => rfl) (cut_nonempty cutSize S)
  rw [cut_flatten, ← buildBlocks_eq] at this
  exact this ok.sorted id h1 h2

end CSD.Hash
