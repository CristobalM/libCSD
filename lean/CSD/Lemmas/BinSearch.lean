/-! Binary search over a comparison `f` of the IDs `1 … n` with monotone sign (`Mono`): the invariant of the loops that
halve an ID interval (`Bracket`), and the three-way loop with its last probe (`Search.first`) of `locateBucket` and
`locateBoundaryBuckets`. Independent of the kind of dictionary; only `Mono` stands in the namespace of the kind it was
first stated for. -/
namespace CSD.RPDAC

/-- What the searches need of the comparison `f` on the IDs `1 … n`; it makes the zeros contiguous. -/
structure Mono (n : Nat) (f : Nat → Int) : Prop where
  pos : ∀ a b, 1 ≤ a → a < b → b ≤ n → f a > 0 → f b > 0
  neg : ∀ a b, 1 ≤ a → a < b → b ≤ n → f b < 0 → f a < 0

namespace Mono
variable {n : Nat} {f : Nat → Int}

theorem of_pairs (h : ∀ a b, 1 ≤ a → a < b → b ≤ n → (f b < 0 → f a < 0) ∧ (f a > 0 → f b > 0)) : Mono n f :=
  ⟨fun a b h1 hab hb => (h a b h1 hab hb).2, fun a b h1 hab hb => (h a b h1 hab hb).1⟩

variable (m : Mono n f)
include m

theorem pos_le {a b : Nat} (h1 : 1 ≤ a) (hab : a ≤ b) (hb : b ≤ n) (h : f a > 0) : f b > 0 :=
  (Nat.eq_or_lt_of_le hab).elim (fun e => e ▸ h) (fun hlt => m.pos a b h1 hlt hb h)

theorem neg_le {a b : Nat} (h1 : 1 ≤ a) (hab : a ≤ b) (hb : b ≤ n) (h : f b < 0) : f a < 0 :=
  (Nat.eq_or_lt_of_le hab).elim (fun e => e ▸ h) (fun hlt => m.neg a b h1 hlt hb h)

theorem nonpos_le {a c : Nat} (h1 : 1 ≤ a) (hac : a ≤ c) (hc : c ≤ n) (hz : f c = 0) : f a ≤ 0 :=
  Int.not_lt.mp fun h => Int.ne_of_gt (m.pos_le h1 hac hc h) hz

theorem nonneg_le {c b : Nat} (h1 : 1 ≤ c) (hcb : c ≤ b) (hb : b ≤ n) (hz : f c = 0) : 0 ≤ f b :=
  Int.not_lt.mp fun h => Int.ne_of_lt (m.neg_le h1 hcb hb h) hz

theorem neg_of_ne {a c : Nat} (h1 : 1 ≤ a) (hac : a ≤ c) (hc : c ≤ n) (hz : f c = 0) (ha : f a ≠ 0) : f a < 0 :=
  Int.lt_iff_le_and_ne.mpr ⟨m.nonpos_le h1 hac hc hz, ha⟩

theorem pos_of_ne {c b : Nat} (h1 : 1 ≤ c) (hcb : c ≤ b) (hb : b ≤ n) (hz : f c = 0) (hne : f b ≠ 0) : f b > 0 :=
  Int.lt_iff_le_and_ne.mpr ⟨m.nonneg_le h1 hcb hb hz, Ne.symm hne⟩

theorem zero_between (a b c : Nat) (h1 : 1 ≤ a) (hab : a ≤ b) (hbc : b ≤ c) (hc : c ≤ n)
    (ha : f a = 0) (hcz : f c = 0) : f b = 0 :=
  Int.le_antisymm (m.nonpos_le (Nat.le_trans h1 hab) hbc hc hcz) (m.nonneg_le h1 hab (Nat.le_trans hbc hc) ha)

end Mono

end CSD.RPDAC

namespace CSD.Search
open CSD.RPDAC (Mono)

theorem mid_bounds {l r : Nat} (h : l ≤ r) : l ≤ (l + r) / 2 ∧ (l + r) / 2 ≤ r :=
  ⟨(Nat.le_div_iff_mul_le Nat.zero_lt_two).mpr (Nat.mul_two l ▸ Nat.add_le_add_left h l),
    Nat.div_le_of_le_mul (Nat.two_mul r ▸ Nat.add_le_add_right h r)⟩

/-- Fuel for `[l, r]` covers both halves around a probe `c`, in the shape of the recursive calls (`shrink'`: for the
loop of `mid_strict`). -/
theorem shrink {l r c fuel : Nat} (h1 : 1 ≤ l) (hlc : l ≤ c) (hcr : c ≤ r) (hf : r + 1 - l < fuel + 1) :
    c - 1 + 1 - l < fuel ∧ r + 1 - (c + 1) < fuel := by
  have hrl : r - l < fuel := by
    rw [Nat.succ_sub (Nat.le_trans hlc hcr)] at hf
    exact Nat.lt_of_succ_lt_succ hf
  rw [Nat.sub_add_cancel (Nat.le_trans h1 hlc), Nat.add_sub_add_right]
  exact ⟨Nat.lt_of_le_of_lt (Nat.sub_le_sub_right hcr l) hrl, Nat.lt_of_le_of_lt (Nat.sub_le_sub_left hlc r) hrl⟩

/-- For the loop `while (rl < rr - 1)`. -/
theorem mid_strict {l r : Nat} (h : l < r - 1) : l < (l + r) / 2 ∧ (l + r) / 2 < r := by
  have hr : 1 ≤ r := Nat.le_of_lt (Nat.lt_of_sub_pos (Nat.zero_lt_of_lt h))
  -- the midpoint of `l … r` is that of `l + 1 … r - 1`
  have hm := mid_bounds (show l + 1 ≤ r - 1 from h)
  rw [Nat.add_right_comm, Nat.add_assoc, Nat.sub_add_cancel hr] at hm
  exact ⟨hm.1, Nat.lt_of_le_of_lt hm.2 (Nat.sub_one_lt_of_le hr (Nat.le_refl r))⟩

theorem shrink' {l r c fuel : Nat} (hlc : l < c) (hcr : c < r) (hf : r - l < fuel + 1) :
    r - c < fuel ∧ c - l < fuel :=
  ⟨Nat.lt_of_lt_of_le (Nat.sub_lt_sub_left (Nat.lt_trans hlc hcr) hlc) (Nat.le_of_lt_succ hf),
    Nat.lt_of_lt_of_le (Nat.sub_lt_sub_right (Nat.le_of_lt hlc) hcr) (Nat.le_of_lt_succ hf)⟩


structure Bracket (n : Nat) (f : Nat → Int) (l r : Nat) : Prop where
  one_le : 1 ≤ l
  le_n : r ≤ n
  below : ∀ id, 1 ≤ id → id < l → id ≤ n → f id < 0
  above : ∀ id, r < id → id ≤ n → f id > 0

namespace Bracket
variable {n : Nat} {f : Nat → Int} {l r : Nat}

theorem init (n : Nat) (f : Nat → Int) : Bracket n f 1 n :=
  ⟨Nat.le_refl _, Nat.le_refl _, fun _ h1 h2 _ => absurd h1 (Nat.not_le.mpr h2), fun _ h1 h2 => absurd h2 (Nat.not_le.mpr h1)⟩

theorem mid (b : Bracket n f l r) (h : l ≤ r) : 1 ≤ (l + r) / 2 ∧ (l + r) / 2 ≤ n :=
  ⟨Nat.le_trans b.one_le (mid_bounds h).1, Nat.le_trans (mid_bounds h).2 b.le_n⟩

theorem goLeft (m : Mono n f) (b : Bracket n f l r) {c : Nat} (hc : 1 ≤ c) (hcr : c ≤ r) (h : f c > 0) :
    Bracket n f l (c - 1) :=
  ⟨b.one_le, Nat.le_trans (Nat.sub_le _ _) (Nat.le_trans hcr b.le_n), b.below,
    fun _ h1 h2 => m.pos_le hc (Nat.le_of_pred_lt h1) h2 h⟩

theorem goRight (m : Mono n f) (b : Bracket n f l r) {c : Nat} (hcn : c ≤ n) (h : f c < 0) :
    Bracket n f (c + 1) r :=
  ⟨Nat.le_add_left _ _, b.le_n, fun _ h1 h2 _ => m.neg_le h1 (Nat.le_of_lt_succ h2) hcn h, b.above⟩

theorem empty (b : Bracket n f l r) (h : r < l) {id : Nat} (h1 : 1 ≤ id) (hn : id ≤ n) :
    (id ≤ r → f id < 0) ∧ (r < id → f id > 0) :=
  ⟨fun h2 => b.below id h1 (Nat.lt_of_le_of_lt h2 h) hn, fun h2 => b.above id h2 hn⟩

theorem empty_ne (b : Bracket n f l r) (h : r < l) (id : Nat) (h1 : 1 ≤ id) (hn : id ≤ n) : f id ≠ 0 := by
  rcases Nat.lt_or_ge r id with h2 | h2
  · exact Int.ne_of_gt ((b.empty h h1 hn).2 h2)
  · exact Int.ne_of_lt ((b.empty h h1 hn).1 h2)

end Bracket

inductive Res where
  | found (left right center : Nat)
  | notFound (left right center : Nat) (cmp : Int)

/-- `while (left <= right) { center = (left+right)/2; cmp = …; if (cmp > 0) right = center-1; else if
(cmp < 0) left = center+1; else break; }` with `cmp center = none` for a read out of bounds. Out of fuel it
answers like an empty interval (as `locateBucketLoop` does). -/
def first (cmp : Nat → Option Int) : Nat → Nat → Nat → Nat → Int → Option Res
  | 0, l, r, c, v => some (.notFound l r c v)
  | fuel + 1, l, r, c, v =>
    if l ≤ r then
      match cmp ((l + r) / 2) with
      | none => none
      | some v' =>
        if v' > 0 then first cmp fuel l ((l + r) / 2 - 1) ((l + r) / 2) v'
        else if v' < 0 then first cmp fuel ((l + r) / 2 + 1) r ((l + r) / 2) v'
        else some (.found l r ((l + r) / 2))
    else some (.notFound l r c v)

/-- Not found: `right` is the last negative ID, and it is what the callers compute from the last probe. -/
def Good (n : Nat) (f : Nat → Int) : Res → Prop
  | .found l r c => Bracket n f l r ∧ l ≤ c ∧ c ≤ r ∧ f c = 0
  | .notFound l r c v => Bracket n f l r ∧ r < l ∧ (if v < 0 then c else c - 1) = r

/-- The last probe of an unsuccessful search did not compare equal (`locateBoundaryBuckets` branches on it);
it holds unless the search starts on an empty interval with a made-up last probe. -/
def Res.probed : Res → Prop
  | .found .. => True
  | .notFound _ _ _ v => v ≠ 0

/-- The third hypothesis is about the made-up last probe `(c, v)` of the initial call and only matters when the
loop body never runs: it must already name `r`. -/
theorem first_spec {n : Nat} {f : Nat → Int} (m : Mono n f) {cmp : Nat → Option Int}
    (hcmp : ∀ id, 1 ≤ id → id ≤ n → cmp id = some (f id)) :
    ∀ (fuel l r c : Nat) (v : Int), Bracket n f l r → r + 1 - l ≤ fuel →
      (r < l → (if v < 0 then c else c - 1) = r) →
      ∃ res, first cmp fuel l r c v = some res ∧ Good n f res ∧ ((r < l → v ≠ 0) → res.probed) := by
  intro fuel
  induction fuel with
  | zero =>
    intro l r c v b hf hv
    have h : r < l := Nat.le_of_sub_eq_zero (Nat.le_zero.mp hf)
    exact ⟨_, rfl, ⟨b, h, hv h⟩, fun hp => hp h⟩
  | succ fuel ih =>
    intro l r c v b hf hv
    unfold first
    by_cases hle : l ≤ r
    · have hc := b.mid hle
      have hm := mid_bounds hle
      have hs := shrink b.one_le hm.1 hm.2 (Nat.lt_succ_of_le hf)
      rw [if_pos hle, hcmp _ hc.1 hc.2]
      generalize (l + r) / 2 = c' at hc hm hs ⊢
      dsimp only
      by_cases hpos : f c' > 0
      · rw [if_pos hpos]
        obtain ⟨res, h, g, p⟩ := ih l (c' - 1) c' (f c') (b.goLeft m hc.1 hm.2 hpos) (Nat.le_of_lt_succ hs.1)
          (fun _ => if_neg (Int.not_lt.mpr (Int.le_of_lt hpos)))
        exact ⟨res, h, g, fun _ => p fun _ => Int.ne_of_gt hpos⟩
      · rw [if_neg hpos]
        by_cases hneg : f c' < 0
        · rw [if_pos hneg]
          obtain ⟨res, h, g, p⟩ := ih (c' + 1) r c' (f c') (b.goRight m hc.2 hneg) (Nat.le_of_lt_succ hs.2)
            (fun h => (if_pos hneg).trans (Nat.le_antisymm hm.2 (Nat.le_of_lt_succ h)))
          exact ⟨res, h, g, fun _ => p fun _ => Int.ne_of_lt hneg⟩
        · rw [if_neg hneg]
          exact ⟨_, rfl, ⟨b, hm.1, hm.2, Int.le_antisymm (Int.not_lt.mp hpos) (Int.not_lt.mp hneg)⟩, fun _ => trivial⟩
    · rw [if_neg hle]
      have h : r < l := Nat.lt_of_not_le hle
      exact ⟨_, rfl, ⟨b, h, hv h⟩, fun hp => hp h⟩

end CSD.Search
