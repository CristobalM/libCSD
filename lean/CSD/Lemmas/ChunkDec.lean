import CSD.Lemmas.BitList
import CSD.Lemmas.Codes

/-! The chunk table decodes what the code tree decodes. `processChunk_eq` splits a step into what it does to the
stream (`applyEntry`) and its `counters`; `stepBits` is the stream part alone, `decodeAll` repeats it. -/
namespace CSD.ChunkDec
open CSD.Codes

/-- The bit stream as `processChunk` sees it: padded with zeros to one chunk. -/
def padTo (k : Nat) (l : List Bool) : List Bool := l ++ List.replicate (k - l.length) false

theorem padTo_of_le (k : Nat) (l : List Bool) (h : k ≤ l.length) : padTo k l = l := by
  rw [padTo, Nat.sub_eq_zero_of_le h, List.replicate_zero, List.append_nil]

theorem exists_padTo_append (k : Nat) (a b : List Bool) : ∃ z, padTo k (a ++ b) = a ++ (b ++ z) :=
  ⟨_, List.append_assoc _ _ _⟩

theorem stream_cons (pend : List Bool) (b : Nat) (rest : List Nat) :
    stream pend (b :: rest) = stream (pend ++ byteBits b) rest := by
  rw [stream, stream, List.flatMap_cons, List.append_assoc]

theorem stream_take_drop (n : Nat) (pend : List Bool) (bytes : List Nat) :
    stream pend bytes = pend.take n ++ stream (pend.drop n) bytes := by
  rw [stream, stream, ← List.append_assoc, List.take_append_drop]

theorem refill_spec (k : Nat) : ∀ (fuel : Nat) (pend : List Bool) (bytes : List Nat),
    k ≤ fuel + pend.length →
    ∃ pend' bytes', refill k (fuel + 1) pend bytes = some (pend', bytes') ∧ k ≤ pend'.length ∧
      stream pend' bytes' = padTo k (stream pend bytes) := by
  intro fuel pend bytes h
  simp only [refill]
  by_cases hlt : pend.length < k
  · rw [if_pos hlt]
    match fuel, bytes with
    | _, [] =>
      refine ⟨_, [], rfl, ?_, ?_⟩
      · rw [List.length_append, List.length_replicate, Nat.add_sub_cancel' (Nat.le_of_lt hlt)]
        exact Nat.le_refl k
      · rw [stream, stream, List.flatMap_nil, List.append_nil, List.append_nil, padTo]
    | 0, _ :: _ => omega
    | fuel + 1, b :: rest =>
      obtain ⟨p', b', h1, h2, h3⟩ := refill_spec k fuel (pend ++ byteBits b) rest
        (by rw [List.length_append, byteBits_length]; omega)
      exact ⟨p', b', h1, h2, by rw [h3, stream_cons]⟩
  · rw [if_neg hlt]
    have hk : k ≤ (stream pend bytes).length := by
      rw [stream, List.length_append]
      exact Nat.le_trans (Nat.not_lt.mp hlt) (Nat.le_add_right _ _)
    exact ⟨pend, bytes, rfl, Nat.not_lt.mp hlt, (padTo_of_le _ _ hk).symm⟩

theorem subtreeAt_spec : ∀ (t : Tree) (p : List Bool) (st : Tree), subtreeAt t p = some st →
    depth st ≤ depth t ∧ ∀ rest, decodeSym t (p ++ rest) = decodeSym st rest
  | t, [], st, h => by cases h; exact ⟨Nat.le_refl _, fun _ => rfl⟩
  | .leaf _, _ :: _, st, h => by cases h
  | .node l r, b :: p, st, h => by
    obtain ⟨hd, hs⟩ := subtreeAt_spec _ p st h
    exact ⟨Nat.le_of_lt (Nat.lt_of_le_of_lt hd (depth_child l r b)),
      fun rest => by rw [List.cons_append, decodeSym_node, hs]⟩

/-- A step at a node consumes the first bit of the stream, pending or in the next byte (`rfl` sees through the
refill: `byteBits byte` evaluates to conses); on an empty stream it fails. -/
theorem walk_node (fuel : Nat) (l r : Tree) : ∀ (pend : List Bool) (bytes : List Nat),
    match stream pend bytes with
    | [] => walk (fuel + 1) (.node l r) pend bytes = none
    | b :: s => ∃ pend' bytes', stream pend' bytes' = s ∧
        walk (fuel + 1) (.node l r) pend bytes = walk fuel (if b then r else l) pend' bytes'
  | _ :: pend, bytes => ⟨pend, bytes, rfl, rfl⟩
  | [], [] => rfl
  | [], _ :: rest => ⟨_, rest, rfl, rfl⟩

/-- Either hypothesis will do: `processChunk_total` has the fuel, `processChunk_sound` the result. -/
theorem walk_eq : ∀ (fuel : Nat) (st : Tree) (pend : List Bool) (bytes : List Nat),
    depth st ≤ fuel ∨ (walk fuel st pend bytes).isSome →
    (walk fuel st pend bytes).map (fun r => (r.1, stream r.2.1 r.2.2)) = decodeSym st (stream pend bytes)
  | fuel, .leaf s, pend, bytes, _ => by cases fuel <;> rfl
  | 0, .node l r, pend, bytes, h => h.elim (fun h => absurd h (Nat.not_succ_le_zero _)) (fun h => nomatch h)
  | fuel + 1, .node l r, pend, bytes, h => by
    have hw := walk_node fuel l r pend bytes
    cases hs : stream pend bytes with
    | nil => rw [hs] at hw; rw [hw]; rfl
    | cons b s =>
      rw [hs] at hw
      obtain ⟨pend', bytes', rfl, hw⟩ := hw
      rw [hw] at h ⊢
      rw [decodeSym_node]
      exact walk_eq fuel _ pend' bytes'
        (h.imp_left fun h => Nat.le_of_lt_succ (Nat.lt_of_lt_of_le (depth_child l r b) h))

def TableOK (t : Tree) (k : Nat) (table : Nat → Option Entry) : Prop :=
  ∀ i e, table i = some e → entryOK t k i e = true

theorem idxBits_bitsVal_take (k : Nat) (pend : List Bool) (h : k ≤ pend.length) :
    idxBits k (bitsVal (pend.take k)) = pend.take k := by
  have := idxBits_bitsVal (pend.take k)
  rwa [List.length_take, Nat.min_eq_left h] at this

theorem entryOK_str {t : Tree} {k i : Nat} {syms : List Nat} {bits : Nat} {ending : Bool}
    (h : entryOK t k i (.str syms bits ending) = true) :
    syms ≠ [] ∧ bits ≤ k ∧ ∃ enc, encode t syms = some enc ∧ enc.length ≤ bits ∧
      enc = (idxBits k i).take enc.length ∧ (enc.length = bits ∨ syms.getLast? = some 0) := by
  simp only [entryOK, Bool.and_eq_true, decide_eq_true_eq] at h
  obtain ⟨⟨⟨⟨⟨h1, _⟩, _⟩, h4⟩, henc⟩, _⟩ := h
  refine ⟨List.ne_nil_of_length_pos h1, h4, ?_⟩
  cases he : encode t syms with
  | none => rw [he] at henc; cases henc
  | some enc =>
    rw [he] at henc
    simp only [Bool.and_eq_true, decide_eq_true_eq, beq_iff_eq, Bool.or_eq_true] at henc
    exact ⟨enc, rfl, henc.1.1, henc.1.2, henc.2⟩

theorem entryOK_sub {t : Tree} {k i : Nat} {st : Tree} (h : entryOK t k i (.sub st) = true) :
    subtreeAt t (idxBits k i) = some st := by
  rw [entryOK] at h
  split at h
  · rename_i l r hs; rw [hs, eq_of_beq h]
  · cases h

theorem findEnd_spec (syms : List Nat) (jump e : Nat) (h : findEnd syms jump = some e) :
    jump + 1 ≤ e ∧ e ≤ syms.length ∧ syms[e - 1]? = some 0 := by
  rw [findEnd] at h
  split at h
  · rename_i i hf
    cases h
    rw [List.findIdx?_eq_some_iff_getElem] at hf
    obtain ⟨hi, hz, _⟩ := hf
    rw [List.getElem_drop] at hz
    have hi' : jump + i < syms.length := by
      rw [List.length_drop] at hi
      exact Nat.add_lt_of_lt_sub' hi
    refine ⟨Nat.succ_le_succ (Nat.le_add_right _ _), hi', ?_⟩
    rw [Nat.add_sub_cancel, List.getElem?_eq_getElem hi', eq_of_beq hz]
  · cases h

theorem findEnd_none (syms : List Nat) (jump : Nat) (h : findEnd syms jump = none) :
    ∀ i, jump ≤ i → syms[i]? ≠ some 0 := by
  rw [findEnd] at h
  split at h
  · cases h
  · rename_i hf
    rw [List.findIdx?_eq_none_iff] at hf
    intro i hi hc
    have hm : 0 ∈ syms.drop jump := by
      rw [List.mem_iff_getElem?]
      exact ⟨i - jump, by rw [List.getElem?_drop, Nat.add_sub_cancel' hi, hc]⟩
    cases hf 0 hm

def applyEntry (k : Nat) (pend : List Bool) (bytes : List Nat) : Entry → Option (List Nat × List Bool × List Nat)
  | .str syms bits _ => if bits > pend.length then none else some (syms, pend.drop bits, bytes)
  | .sub st => (walk 64 st (pend.drop k) bytes).map fun r => ([r.1], r.2)

def counters (c : Scan) (out : List Nat) : Entry → Bool × Nat × Nat
  | .str _ _ ending =>
    if c.extracted + out.length ≤ 2 then (false, c.strLen + out.length, c.advanced + out.length)
    else match (if ending then findEnd out (if c.extracted < 2 then 2 - c.extracted else 0) else none) with
      | some e => (true, c.strLen + e, out.length - e)
      | none => (false, c.strLen + out.length, c.advanced)
  | .sub _ => (out == [0], c.strLen + 1, c.advanced)

theorem processChunk_eq (table : Nat → Option Entry) (k : Nat) (c : Scan) : processChunk table k c =
    (refill k (k + 2) c.pend c.bytes).bind fun pb => (table (bitsVal (pb.1.take k))).bind fun e =>
      (applyEntry k pb.1 pb.2 e).map fun r =>
        (r.1, (counters c r.1 e).1,
          { pend := r.2.1, bytes := r.2.2, strLen := (counters c r.1 e).2.1, advanced := (counters c r.1 e).2.2,
            extracted := c.extracted + r.1.length }) := by
  unfold processChunk
  cases refill k (k + 2) c.pend c.bytes with
  | none => rfl
  | some pb =>
    obtain ⟨pend, bytes⟩ := pb
    dsimp only [Option.bind_some]
    cases table (bitsVal (pend.take k)) with
    | none => rfl
    | some e =>
      cases e with
      | str syms bits ending =>
        dsimp only [Option.bind_some, applyEntry, counters]
        by_cases hb : bits > pend.length
        · rw [if_pos hb, if_pos hb]
          rfl
        · rw [if_neg hb, if_neg hb]
          by_cases h2 : c.extracted + syms.length ≤ 2
          · rw [if_pos h2, Option.map_some, if_pos h2]
          · rw [if_neg h2, Option.map_some, if_neg h2]
            cases (if ending = true then findEnd syms (if c.extracted < 2 then 2 - c.extracted else 0) else none) <;> rfl
      | sub st =>
        dsimp only [Option.bind_some, applyEntry, counters]
        cases walk 64 st (pend.drop k) bytes with
        | none => rfl
        | some r => simp only [Option.map_some, List.cons_beq_cons, BEq.rfl, Bool.and_true]; rfl

/-- A step without the counters of the scan: what it writes and where it leaves the stream. -/
def stepBits (table : Nat → Option Entry) (k : Nat) (pend : List Bool) (bytes : List Nat) :
    Option (List Nat × List Bool × List Nat) :=
  (processChunk table k { pend := pend, bytes := bytes, strLen := 0, advanced := 0, extracted := 0 }).map
    fun r => (r.1, r.2.2.pend, r.2.2.bytes)

theorem processChunk_bits (table : Nat → Option Entry) (k : Nat) (c : Scan) :
    (processChunk table k c).map (fun r => (r.1, r.2.2.pend, r.2.2.bytes)) = stepBits table k c.pend c.bytes := by
  rw [stepBits, processChunk_eq, processChunk_eq]
  simp only [Option.map_bind, Option.map_map, Function.comp_def]

theorem stepBits_refilled (table : Nat → Option Entry) (k : Nat) (pend : List Bool) (bytes : List Nat) :
    ∃ pend₁ bytes₁, k ≤ pend₁.length ∧ stream pend₁ bytes₁ = padTo k (stream pend bytes) ∧
      stepBits table k pend bytes = (table (bitsVal (pend₁.take k))).bind (applyEntry k pend₁ bytes₁) := by
  obtain ⟨pend₁, bytes₁, hr, hlen, hs⟩ := refill_spec k (k + 1) pend bytes
    (Nat.le_trans (Nat.le_add_right k 1) (Nat.le_add_right _ _))
  refine ⟨pend₁, bytes₁, hlen, hs, ?_⟩
  rw [stepBits, processChunk_eq, hr]
  simp only [Option.bind_some, Option.map_bind, Option.map_map, Function.comp_def, Option.map_id']

/-- **One `processChunk` step decodes what the code tree decodes** from the padded stream: `out.length ≥ 1`
symbols, and the stream is left right behind their codewords — after a string terminator possibly further. -/
theorem processChunk_sound (t : Tree) (k : Nat) (table : Nat → Option Entry) (hT : TableOK t k table)
    (c : Scan) (out : List Nat) (flag : Bool) (c' : Scan)
    (h : processChunk table k c = some (out, flag, c')) :
    out ≠ [] ∧ ∃ r, decode t out.length (padTo k (stream c.pend c.bytes)) = some (out, r) ∧
      (r = stream c'.pend c'.bytes ∨ (out.getLast? = some 0 ∧ ∃ d, stream c'.pend c'.bytes = r.drop d)) := by
  obtain ⟨pend, bytes, hlen, hs, he⟩ := stepBits_refilled table k c.pend c.bytes
  rw [← processChunk_bits, h, Option.map_some, eq_comm, Option.bind_eq_some_iff] at he
  obtain ⟨e, he, ha⟩ := he
  dsimp only at ha
  generalize c'.pend = pend', c'.bytes = bytes' at ha ⊢
  have hok := hT _ _ he
  rw [← hs]
  cases e with
  | str syms bits ending =>
    obtain ⟨hne, hbk, enc, henc, hle, hpre, hex⟩ := entryOK_str hok
    rw [applyEntry, if_neg (Nat.not_lt.mpr (Nat.le_trans hbk hlen))] at ha
    cases ha
    rw [idxBits_bitsVal_take k pend hlen, List.take_take, Nat.min_eq_left (Nat.le_trans hle hbk)] at hpre
    refine ⟨hne, stream (pend.drop enc.length) bytes, ?_, ?_⟩
    · rw [stream_take_drop enc.length, ← hpre]
      exact decode_encode t _ enc _ henc
    · rcases hex with hx | hx
      · exact Or.inl (by rw [hx])
      · refine Or.inr ⟨hx, bits - enc.length, ?_⟩
        rw [stream, stream, List.drop_append_of_le_length, List.drop_drop, Nat.add_sub_cancel' hle]
        rw [List.length_drop]
        exact Nat.sub_le_sub_right (Nat.le_trans hbk hlen) _
  | sub st =>
    have hs := entryOK_sub hok
    rw [idxBits_bitsVal_take k pend hlen] at hs
    rw [applyEntry, Option.map_eq_some_iff] at ha
    obtain ⟨⟨s, p', b'⟩, hw, hr⟩ := ha
    cases hr
    refine ⟨List.cons_ne_nil _ _, _, ?_, Or.inl rfl⟩
    have := walk_eq 64 st _ _ (Or.inr (by rw [hw]; rfl))
    rw [hw] at this
    rw [List.length_singleton, decode_succ, stream_take_drop k, (subtreeAt_spec t _ _ hs).2, ← this]
    rfl

/-- The flag `true` marks a string end among the written symbols: `strLen` stops right behind a 0 among them,
those behind it are counted as extracted in advance. -/
theorem processChunk_flag_true (t : Tree) (k : Nat) (table : Nat → Option Entry) (hT : TableOK t k table)
    (c : Scan) (out : List Nat) (c' : Scan)
    (h : processChunk table k c = some (out, true, c')) :
    ∃ e, c'.strLen = c.strLen + e ∧ 1 ≤ e ∧ e ≤ out.length ∧ out[e - 1]? = some 0 ∧
      (c'.advanced = out.length - e ∨ (out.length = 1 ∧ c'.advanced = c.advanced)) := by
  rw [processChunk_eq] at h
  simp only [Option.bind_eq_some_iff, Option.map_eq_some_iff, Prod.mk.injEq] at h
  -- `pb`: refilled bits, `e`: entry, `r`: from `applyEntry`; `out = r.1`, `hf`: the flag, `c'`: the record
  obtain ⟨pb, _, e, _, r, _, rfl, hf, rfl⟩ := h
  cases e with
  | str syms bits ending =>
    dsimp only [counters] at hf ⊢
    by_cases h2 : c.extracted + r.1.length ≤ 2
    · rw [if_pos h2] at hf
      cases hf
    · rw [if_neg h2] at hf ⊢
      cases ending with
      | false => cases hf
      | true =>
        rw [if_pos rfl] at hf ⊢
        cases hfe : findEnd r.1 (if c.extracted < 2 then 2 - c.extracted else 0) with
        | none =>
          rw [hfe] at hf
          cases hf
        | some n =>
          obtain ⟨hjump, hle, hzero⟩ := findEnd_spec _ _ _ hfe
          exact ⟨n, rfl, Nat.le_trans (Nat.le_add_left 1 _) hjump, hle, hzero, Or.inl rfl⟩
  | sub st =>
    rw [eq_of_beq (show (r.1 == [0]) = true from hf)]
    exact ⟨1, rfl, Nat.le_refl _, Nat.le_refl _, rfl, Or.inr ⟨rfl, rfl⟩⟩

/-- **On an encoded text**: if the padded stream is the encoding of `w` followed by anything, the
`out.length ≤ |w|` symbols written are the next symbols of `w`; unless the last is the terminator, the
stream is left at the encoding of the rest of `w`. -/
theorem processChunk_on_encoded (t : Tree) (k : Nat) (table : Nat → Option Entry) (hT : TableOK t k table)
    (c : Scan) (out : List Nat) (flag : Bool) (c' : Scan)
    (h : processChunk table k c = some (out, flag, c'))
    (w : List Nat) (enc rest : List Bool) (henc : encode t w = some enc)
    (hs : padTo k (stream c.pend c.bytes) = enc ++ rest) (hm : out.length ≤ w.length) :
    out = w.take out.length ∧
      (out.getLast? ≠ some 0 →
        ∃ e2, encode t (w.drop out.length) = some e2 ∧ stream c'.pend c'.bytes = e2 ++ rest) := by
  obtain ⟨_, r, hdec, hr⟩ := processChunk_sound t k table hT c out flag c' h
  rw [hs] at hdec
  obtain ⟨ho, hrest⟩ := decode_of_encode_append t rest _ w enc out r henc hdec
  obtain ⟨e2, h2, rfl⟩ := hrest hm
  rw [List.take_of_length_le hm] at ho
  exact ⟨ho, fun hz => ⟨e2, h2, (hr.resolve_right fun h => hz h.1).symm⟩⟩

/-- **The step succeeds** (every table and bucket read in bounds) if the table covers all `2^k` indices and the
padded stream starts with a whole codeword. -/
theorem processChunk_total (t : Tree) (k : Nat) (table : Nat → Option Entry) (hT : TableOK t k table)
    (hcov : ∀ i, i < 2 ^ k → (table i).isSome) (hd : depth t ≤ 64) (c : Scan)
    (hcw : (decodeSym t (padTo k (stream c.pend c.bytes))).isSome) :
    (processChunk table k c).isSome := by
  obtain ⟨pend, bytes, hlen, hs, he⟩ := stepBits_refilled table k c.pend c.bytes
  have hlt := bitsVal_lt (pend.take k)
  rw [List.length_take, Nat.min_eq_left hlen] at hlt
  obtain ⟨e, hte⟩ := Option.isSome_iff_exists.mp (hcov _ hlt)
  have hok := hT _ _ hte
  rw [← Option.isSome_map, processChunk_bits, he, hte, Option.bind_some]
  cases e with
  | str syms bits ending =>
    rw [applyEntry, if_neg (Nat.not_lt.mpr (Nat.le_trans (entryOK_str hok).2.1 hlen))]
    rfl
  | sub st =>
    have hst := entryOK_sub hok
    rw [idxBits_bitsVal_take k pend hlen] at hst
    obtain ⟨hdep, hdec⟩ := subtreeAt_spec t _ _ hst
    rw [← hs, stream_take_drop k, hdec, ← walk_eq 64 st _ _ (Or.inl (Nat.le_trans hdep hd)), Option.isSome_map] at hcw
    rw [applyEntry, Option.isSome_map]; exact hcw

def decodeAll (table : Nat → Option Entry) (k : Nat) : Nat → List Bool → List Nat → Nat → Option (List Nat)
  | _, _, _, 0 => some []
  | 0, _, _, _ + 1 => none
  | fuel + 1, pend, bytes, need + 1 =>
    match stepBits table k pend bytes with
    | none => none
    | some (out, pend', bytes') => (decodeAll table k fuel pend' bytes' (need + 1 - out.length)).map (out ++ ·)

theorem decodeAll_pos (table : Nat → Option Entry) (k fuel : Nat) (pend : List Bool) (bytes : List Nat) {need : Nat}
    (h : 0 < need) : decodeAll table k (fuel + 1) pend bytes need =
      (stepBits table k pend bytes).bind fun r => (decodeAll table k fuel r.2.1 r.2.2 (need - r.1.length)).map (r.1 ++ ·) := by
  obtain ⟨n, rfl⟩ := Nat.exists_eq_succ_of_ne_zero (Nat.ne_of_gt h)
  rw [decodeAll]
  cases stepBits table k pend bytes <;> rfl

/-- **A whole string is decoded back to itself, chunk by chunk**: if the stream (pending bits, then bytes)
holds the encoding of `w`, with no terminator before its last symbol, followed by anything, a run of
`decodeAll` for `|w|` symbols that returns has written `w` first — the last entry may decode past its end. -/
theorem decodeAll_spec (t : Tree) (k : Nat) (table : Nat → Option Entry) (hT : TableOK t k table) :
    ∀ (fuel : Nat) (pend : List Bool) (bytes : List Nat) (w : List Nat) (enc rest : List Bool) (o : List Nat),
    encode t w = some enc → (∀ i, i + 1 < w.length → w[i]? ≠ some 0) →
    padTo k (stream pend bytes) = enc ++ rest →
    decodeAll table k fuel pend bytes w.length = some o → o.take w.length = w := by
  intro fuel
  induction fuel with
  | zero =>
    intro pend bytes w enc rest o _ _ _ h
    cases w with
    | nil => rfl
    | cons a w => cases h
  | succ fuel ih =>
    intro pend bytes w enc rest o henc hnz hs h
    rcases Nat.eq_zero_or_pos w.length with h0 | hpos
    · rw [h0, List.eq_nil_of_length_eq_zero h0]; rfl
    rw [decodeAll_pos table k fuel pend bytes hpos, stepBits] at h
    simp only [Option.bind_eq_some_iff, Option.map_eq_some_iff] at h
    -- the step (`hp`) writes `out`, the rest of the run (`hrec`) `o'`; `o = out ++ o'`
    obtain ⟨_, ⟨⟨out, flag, c'⟩, hp, rfl⟩, o', hrec, rfl⟩ := h
    obtain ⟨hne, r, hdec, _⟩ := processChunk_sound t k table hT _ _ _ _ hp
    have hout0 : 0 < out.length := List.length_pos_iff.mpr hne
    by_cases hcmp : out.length < w.length
    · obtain ⟨hout, hnext⟩ := processChunk_on_encoded t k table hT _ _ _ _ hp w enc rest henc hs (Nat.le_of_lt hcmp)
      have hlast : out.getLast? ≠ some 0 := by
        rw [List.getLast?_eq_getElem?, hout, List.length_take, Nat.min_eq_left (Nat.le_of_lt hcmp),
          List.getElem?_take_of_lt (Nat.sub_lt hout0 Nat.one_pos)]
        exact hnz (out.length - 1) (by rw [Nat.sub_add_cancel hout0]; exact hcmp)
      obtain ⟨e2, he2, hst⟩ := hnext hlast
      obtain ⟨z, hz⟩ := exists_padTo_append k e2 rest
      rw [← hst] at hz
      have hnz' : ∀ i, i + 1 < (w.drop out.length).length → (w.drop out.length)[i]? ≠ some 0 := by
        intro i hi
        rw [List.length_drop] at hi
        rw [List.getElem?_drop]
        exact hnz _ (Nat.add_lt_of_lt_sub' (a := out.length) hi)
      have := ih c'.pend c'.bytes (w.drop out.length) e2 (rest ++ z) o' he2 hnz' hz (by rw [List.length_drop]; exact hrec)
      rw [List.length_drop] at this
      rw [List.take_append, List.take_of_length_le (Nat.le_of_lt hcmp), this, hout, List.length_take,
        Nat.min_eq_left (Nat.le_of_lt hcmp), List.take_append_drop]
    · rw [show padTo k (stream pend bytes) = enc ++ rest from hs] at hdec
      rw [List.take_append_of_le_length (Nat.not_lt.mp hcmp), (decode_of_encode_append t rest _ w enc out r henc hdec).1,
        List.take_of_length_le (Nat.not_lt.mp hcmp)]

/-- How `enc ++ rest` arises: a word followed by another. -/
theorem encode_append (t : Tree) : ∀ (a b : List Nat) (ea eb : List Bool),
    encode t a = some ea → encode t b = some eb → encode t (a ++ b) = some (ea ++ eb)
  | [], b, ea, eb, ha, hb => by cases ha; exact hb
  | s :: a, b, ea, eb, ha, hb => by
    obtain ⟨c, r, hc, hr, rfl⟩ := encode_cons_eq_some ha
    rw [List.cons_append, encode_cons, hc, encode_append t a b r eb hr hb, List.append_assoc]
    rfl

end CSD.ChunkDec
