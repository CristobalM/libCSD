import CSD.Lemmas.PFCBucket
import CSD.Lemmas.RPDACSearch
import CSD.Lemmas.Strncmp

/-! `locateBoundaryBuckets` on a built PFC dictionary: its three loops are `Search.first`, `RPDAC.leftLoop` and
`RPDAC.rightLoop` on the header comparison `cmpH` (`bb*_eq`), whose specifications over a `Mono` comparison apply. -/
namespace CSD.PFC
open CSD CSD.RPDAC CSD.Search

section
variable (b0 : Nat) (S : List Str) (q : Str)

/-- `strncmp(header k, q, |q|)`. -/
def fH (k : Nat) : Int := ncmp (hd b0 S k) q

/-- The headers are `S` read at the IDs `(k - 1) * clamp b0 + 1` and the model's `ncmp` has the body of `RPDAC.pcmp`:
the `pcmp` lemmas apply to `fH` by unfolding. -/
theorem fH_eq_along (k : Nat) : fH b0 S q k = along S (pcmp · q) ((k - 1) * clamp b0 + 1) := rfl

def cmpH (k : Nat) : Option Int := (hdrOf (build b0 S) k).map fun h => ncmp h.1 q

theorem cmpH_eq (hS : ∀ s ∈ S, nulFree s) (k : Nat) (h1 : 1 ≤ k) (h2 : k ≤ (build b0 S).buckets) :
    cmpH b0 S q k = some (fH b0 S q k) := by
  obtain ⟨L, rest, _, h⟩ := hdrOf_build b0 S hS k h1 h2
  rw [cmpH, h]
  rfl

/-- What `bbFirst` returns of a search result: on a hit the comparison is 0. -/
def bbRes : Search.Res → Nat × Nat × Nat × Int
  | .found l r c => (l, r, c, 0)
  | .notFound l r c v => (l, r, c, v)

/-- Only while the fuel lasts: out of fuel `bbFirst` is `none`, `Search.first` is `notFound` (`leftLoop`, `rightLoop` are
`none` like `bbLeft`, `bbRight`). -/
theorem bbFirst_eq : ∀ (fuel l r c : Nat) (v : Int), 1 ≤ l → r + 1 - l < fuel →
    bbFirst (build b0 S) q fuel l r c v = (Search.first (cmpH b0 S q) fuel l r c v).map bbRes
  | 0, _, _, _, _, _, h => absurd h (Nat.not_lt_zero _)
  | fuel + 1, l, r, c, v, hl, h => by
    unfold bbFirst Search.first
    by_cases hle : l ≤ r
    · have hm := mid_bounds hle
      have hs := shrink hl hm.1 hm.2 h
      simp only [if_pos hle, cmpH]
      generalize (l + r) / 2 = m at hm hs ⊢
      cases hdrOf (build b0 S) m with
      | none => rfl
      | some hr =>
        simp only [Option.map_some, apply_ite (Option.map _)]
        rw [bbFirst_eq fuel _ _ _ _ hl hs.1, bbFirst_eq fuel _ _ _ _ (Nat.le_add_left 1 m) hs.2]
        rfl
    · rw [if_neg hle, if_neg hle]
      rfl

theorem bbLeft_eq : ∀ (fuel ll lr : Nat), bbLeft (build b0 S) q fuel ll lr = leftLoop (cmpH b0 S q) fuel ll lr
  | 0, _, _ => rfl
  | fuel + 1, ll, lr => by
    unfold bbLeft leftLoop
    simp only [bbLeft_eq fuel, cmpH]
    cases hdrOf (build b0 S) ((ll + lr) / 2) <;> rfl

theorem bbRight_eq : ∀ (fuel rl rr : Nat), bbRight (build b0 S) q fuel rl rr = rightLoop (cmpH b0 S q) fuel rl rr
  | 0, _, _ => rfl
  | fuel + 1, rl, rr => by
    unfold bbRight rightLoop
    simp only [bbRight_eq fuel, cmpH]
    cases hdrOf (build b0 S) ((rl + rr) / 2) <;> rfl

theorem fH_mono (hS : ∀ s ∈ S, nulFree s) (hsort : SortedLt S) : Mono (build b0 S).buckets (fH b0 S q) :=
  Mono.of_pairs fun a b h1 hab hb =>
    pcmp_mono (p := q) (hS _ (hd_mem b0 S h1 (Nat.le_trans (Nat.le_of_lt hab) hb)))
      (hS _ (hd_mem b0 S (Nat.le_trans h1 (Nat.le_of_lt hab)) hb)) (hd_lt b0 S hsort a b h1 hab hb)

/-- The first search of `locateBoundaryBuckets` as it is started: what `Search.first_spec` says of its result (it is
what RPFC's simulation needs to know of the interval handed to the other two searches). -/
theorem bbFirst_build (hS : ∀ s ∈ S, nulFree s) (hsort : SortedLt S) (hnb : 1 ≤ (build b0 S).buckets) :
    ∃ res, bbFirst (build b0 S) q ((build b0 S).buckets + 1) 1 (build b0 S).buckets 0 0 = some (bbRes res) ∧
      Search.Good (build b0 S).buckets (fH b0 S q) res ∧ res.probed := by
  obtain ⟨res, hfirst, hgood, hprobed⟩ := Search.first_spec (fH_mono b0 S q hS hsort)
    (fun k h1 h2 => cmpH_eq b0 S q hS k h1 h2) ((build b0 S).buckets + 1) 1 (build b0 S).buckets 0 0
    (Bracket.init _ _) (Nat.sub_le _ _) (fun h => absurd hnb (Nat.not_le.mpr h))
  exact ⟨res, by rw [bbFirst_eq b0 S q _ _ _ _ _ (Nat.le_refl _) (Nat.sub_lt (Nat.succ_pos _) Nat.one_pos), hfirst]; rfl,
    hgood, hprobed fun h => absurd hnb (Nat.not_le.mpr h)⟩

end

/-- **`locateBoundaryBuckets`**: either no header matches and both buckets are the last bucket whose
header is below the pattern (possibly 0), or the headers of the buckets `F … Lz` are exactly those that
match, the left bucket is the one before `F` (or 1) and the right bucket is `Lz`. -/
theorem boundaryBuckets_spec (b0 : Nat) (S : List Str) (q : Str) (hne : S ≠ []) (hS : ∀ s ∈ S, nulFree s)
    (hsort : SortedLt S) :
    ∃ lb rb, boundaryBuckets (build b0 S) q = some (lb, rb) ∧
      ((lb = rb ∧ rb ≤ (build b0 S).buckets ∧ (∀ k, 1 ≤ k → k ≤ (build b0 S).buckets → fH b0 S q k ≠ 0) ∧
          (∀ k, 1 ≤ k → k ≤ rb → fH b0 S q k < 0) ∧ (∀ k, rb < k → k ≤ (build b0 S).buckets → fH b0 S q k > 0)) ∨
       (∃ F Lz, 1 ≤ F ∧ F ≤ Lz ∧ Lz ≤ (build b0 S).buckets ∧ lb = (if F > 1 then F - 1 else 1) ∧ rb = Lz ∧
          (∀ k, F ≤ k → k ≤ Lz → fH b0 S q k = 0) ∧ (∀ k, 1 ≤ k → k < F → fH b0 S q k < 0) ∧
          (∀ k, Lz < k → k ≤ (build b0 S).buckets → fH b0 S q k > 0))) := by
  have m := fH_mono b0 S q hS hsort
  have hcmp := fun k h1 h2 => cmpH_eq b0 S q hS k h1 h2
  have hnb : 1 ≤ (build b0 S).buckets :=
    (idx_lt_iff b0 S (Nat.le_refl 1)).mp (by simpa using List.length_pos_iff.mpr hne)
  unfold boundaryBuckets
  obtain ⟨res, hfirst, hgood, hcm⟩ := bbFirst_build b0 S q hS hsort hnb
  rw [hfirst]
  generalize (build b0 S).buckets = n at m hcmp hnb hgood ⊢
  cases res with
  | found l r c =>
    obtain ⟨b, hlc, hcr, hz⟩ := hgood
    obtain ⟨lr, R, hleft, hright, hlrc, hcR, hRn, hbelow, hzero, habove⟩ :=
      boundaries_spec m (cmpH b0 S q) hcmp b hlc hcr hz
    have hrn := b.le_n
    simp only [bbRes, ne_eq, not_true_eq_false, ↓reduceIte, bbLeft_eq, bbRight_eq, hleft, hright]
    -- each guard only skips a search whose answer is known anyway
    have hl : (if c > 1 then some (if lr > 0 then lr else 1) else some l) =
        some (if lr + 1 > 1 then lr + 1 - 1 else 1) := by
      simp only [Nat.lt_add_left_iff_pos, Nat.add_sub_cancel]
      by_cases hc : c > 1
      · rw [if_pos hc]
      · have := b.one_le
        obtain ⟨rfl, rfl⟩ : lr = 0 ∧ l = 1 := by omega
        rw [if_neg hc]
        rfl
    have hr : (if c < n then some R else some r) = some R := by
      by_cases hc : c < n
      · rw [if_pos hc]
      · rw [if_neg hc, show r = R by omega]
    rw [hl, hr]
    exact ⟨_, R, rfl, Or.inr ⟨lr + 1, R, Nat.le_add_left _ _, Nat.le_trans hlrc hcR, hRn, rfl, rfl, hzero,
      fun k h1 h2 => hbelow k h1 (Nat.le_of_lt_succ h2), habove⟩⟩
  | notFound l r c cm =>
    -- no header matches: the last probe names the bucket `r` where the sign changes
    obtain ⟨b, hrl, hR⟩ := hgood
    simp only [bbRes, ne_eq, show cm ≠ 0 from hcm, not_false_eq_true, ↓reduceIte]
    have hres : (if cm < 0 then some (c, c) else some (c - 1, c - 1)) = some (r, r) := by rw [← hR]; split <;> rfl
    exact ⟨_, _, hres, Or.inl ⟨rfl, b.le_n, b.empty_ne hrl, fun k h1 h2 => (b.empty hrl h1 (Nat.le_trans h2 b.le_n)).1 h2,
      b.above⟩⟩

end CSD.PFC
