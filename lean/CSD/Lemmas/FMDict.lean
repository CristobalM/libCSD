import CSD.Lemmas.FMLocate
import CSD.Lemmas.FMWalk
import CSD.Lemmas.PFCBasic

/-! Members in the text of a dictionary: where the text splits in front of one, at which row the separator in front of
member `j` sits, and that a suffix starting with an ordinary byte lies inside one.  Hence `extract_id` returns the
member (`extractId_row`) and the walk of `locate` from any row inside member `i` returns `i + 1` (`walk_member`).
Last, the model's `buildDict` meets the hypotheses (`PFCBasic` is imported for `maxlength`, the same fold there). -/
namespace CSD.FM

/-- `\1 a₁ \1 a₂ … \1 aₖ`: the text up to, not including, the separator behind the members `A`. -/
def textBefore : List Str → List Sym
  | [] => []
  | a :: A => 1 :: symsOf a ++ textBefore A

theorem mkText_split : ∀ (S : List Str) (j : Nat), mkText S = textBefore (S.take j) ++ 1 :: body (S.drop j)
  | _, 0 => rfl
  | [], _ + 1 => rfl
  | a :: S, j + 1 => by
    have ih := mkText_split S j
    rw [mkText] at ih
    rw [mkText, body, ih, List.take_succ_cons, List.drop_succ_cons, textBefore]
    simp only [List.append_assoc, List.cons_append]

theorem body_drop (S : List Str) (j : Nat) (hj : j < S.length) :
    body (S.drop j) = symsOf S[j] ++ 1 :: body (S.drop (j + 1)) := by
  rw [List.drop_eq_getElem_cons hj, body]

theorem count_one_textBefore : ∀ (A : List Str), ValidS A → (textBefore A).count 1 = A.length
  | [], _ => rfl
  | a :: A, hv => by
    rw [textBefore, List.cons_append, List.count_cons_self, List.count_append, count_one_ge2 (hv a List.mem_cons_self),
      count_one_textBefore A (fun t ht => hv t (List.mem_cons_of_mem _ ht)), Nat.zero_add, List.length_cons]

/-- The fuel `bwt.length + 1` of `extract_id` and of the walk suffices. -/
theorem member_lt_bwt {S : List Str} {L : List Row} {ix : Index} (hSA : IsSA (mkText S) L)
    (hB : Built (mkText S) L ix) (i : Nat) (hi : i < S.length) : (symsOf S[i]).length < ix.bwt.length := by
  rw [hB.bwt, List.length_map, hSA.1.length_eq, rows, length_rowsFrom, mkText_split S i, body_drop S i hi]
  simp only [List.length_append, List.length_cons]
  omega

/-- Where `id + 3` and `2` in `extract` and in the iterators come from: the separator behind member `id` (1-based)
is the one in front of member `j = id` (0-based). -/
theorem lo_memberSep {S : List Str} {L : List Row} (hv : validDict S = true) (hSA : IsSA (mkText S) L)
    (j : Nat) (hj : j ≤ S.length) :
    lo L (1 :: body (S.drop j)) = if j = S.length then 2 else j + 3 := by
  by_cases hlast : j = S.length
  · rw [if_pos hlast, List.drop_eq_nil_of_le (Nat.le_of_eq hlast.symm)]
    exact lo_lastSep hSA (validS_of_validDict hv)
  · have hj' : j < S.length := Nat.lt_of_le_of_ne hj hlast
    have hR0 : (1 :: body (S.drop j) : List Sym) = patOf S[j] ++ body (S.drop (j + 1)) := by
      rw [body_drop S j hj', patOf]; simp only [List.cons_append, List.append_assoc, List.nil_append]
    obtain ⟨p', hrow⟩ := hSA.exists_mem.mpr ⟨_, (mkText_split S j).symm⟩
    rw [hR0] at hrow ⊢
    rw [if_neg hlast, lo_append_of_occs_one hSA hrow (occs_pat_getElem hv hSA hj'), lo_pat_getElem hv hSA hj',
      Nat.add_comm]

theorem suffix_append_cases (a X t : List Sym) (h : t <:+ a ++ X) :
    (∃ u v, a = u ++ v ∧ v ≠ [] ∧ t = v ++ X) ∨ t <:+ X := by
  obtain ⟨B, hB⟩ := h
  rcases List.append_eq_append_iff.mp hB with ⟨v, rfl, rfl⟩ | ⟨bs, rfl, rfl⟩
  · cases v with
    | nil => exact Or.inr (List.suffix_refl _)
    | cons x v => exact Or.inl ⟨B, x :: v, rfl, List.cons_ne_nil _ _, rfl⟩
  · exact Or.inr ⟨bs, rfl⟩

theorem suffix_of_head_ne {y a : Sym} {t l : List Sym} (hne : y ≠ a) (h : y :: t <:+ a :: l) : y :: t <:+ l :=
  (List.suffix_cons_iff.mp h).resolve_left fun e => hne (List.cons.inj e).1

theorem suffix_inside (S : List Str) (y : Sym) (t' : List Sym) (hy : 2 ≤ y) : y :: t' <:+ body S →
    ∃ (i : Nat) (hi : i < S.length) (u v : List Sym), symsOf S[i] = u ++ v ∧ v ≠ [] ∧
      y :: t' = v ++ 1 :: body (S.drop (i + 1)) := by
  induction S with
  | nil => exact fun h => nomatch List.suffix_nil.mp (suffix_of_head_ne (Nat.ne_zero_of_lt hy) h)
  | cons s rest ih =>
    intro h
    rcases suffix_append_cases (symsOf s) (1 :: body rest) (y :: t') h with ⟨u, v, huv, hv, ht⟩ | h'
    · exact ⟨0, Nat.zero_lt_succ _, u, v, huv, hv, ht⟩
    · obtain ⟨i, hi, u, v, huv, hv, ht⟩ := ih (suffix_of_head_ne (Nat.ne_of_gt hy) h')
      exact ⟨i + 1, Nat.succ_lt_succ hi, u, v, huv, hv, ht⟩

theorem row_inside {S : List Str} {L : List Row} (hSA : IsSA (mkText S) L) {p' : Option Sym} {y : Sym}
    {t' : List Sym} (hy : 2 ≤ y) (h : (p', y :: t') ∈ L) :
    ∃ (i : Nat) (hi : i < S.length) (u v : List Sym), symsOf S[i] = u ++ v ∧ v ≠ [] ∧
      y :: t' = v ++ 1 :: body (S.drop (i + 1)) :=
  suffix_inside S y t' hy (suffix_of_head_ne (Nat.ne_of_gt hy) (hSA.exists_mem.mp ⟨p', h⟩))

theorem extractId_row {S : List Str} {L : List Row} {d : Dict} (hv : validDict S = true) (hd : DictOK S L d)
    (hml : ∀ s ∈ S, s.length < d.maxlength) (i : Nat) (hi : i < S.length) :
    extractId d.ix (if i + 1 = d.elements then 2 else i + 1 + 3) d.maxlength = some (symsOf S[i]) := by
  have hs2 : Ge2 (symsOf S[i]) := validS_of_validDict hv _ (List.getElem_mem hi)
  have hmax : (symsOf S[i]).length < d.maxlength := by
    rw [symsOf, List.length_map]
    exact hml _ (List.getElem_mem hi)
  have hfuel := member_lt_bwt hd.sa hd.built i hi
  obtain ⟨ur, hur⟩ : ∃ ur, symsOf S[i] = ur.reverse := ⟨(symsOf S[i]).reverse, (List.reverse_reverse _).symm⟩
  rw [hur, List.length_reverse] at hmax hfuel
  have hT : mkText S = textBefore (S.take i) ++ 1 :: (ur.reverse ++ 1 :: body (S.drop (i + 1))) := by
    rw [← hur, ← body_drop S i hi]
    exact mkText_split S i
  rw [extractId, hd.elements, ← lo_memberSep hv hd.sa (i + 1) hi, hur,
    extractLoop_spec hd.sa hd.built d.maxlength ur _ [] _ hT (fun x hx => hs2 x (hur ▸ List.mem_reverse.mpr hx))
      (Nat.lt_succ_of_lt hfuel) (Nat.le_succ_of_le (Nat.le_of_lt hmax)),
    List.append_nil]

/-- `StringDictionaryFMINDEX::extract(i + 1)` is the `i`-th member (0-based `i`), every read in bounds,
the result buffer never overrun. -/
theorem extract_spec {S : List Str} {L : List Row} {d : Dict} (hv : validDict S = true) (hd : DictOK S L d)
    (hml : ∀ s ∈ S, s.length < d.maxlength) (i : Nat) (hi : i < S.length) :
    d.extract (i + 1) = some (some (symsOf S[i])) := by
  rw [Dict.extract, if_pos ⟨Nat.succ_pos i, by rw [hd.elements]; exact hi⟩, extractId_row hv hd hml i hi]
  rfl

theorem extract_bad_id {S : List Str} {L : List Row} {d : Dict} (hd : DictOK S L d) (id : Nat)
    (h : id = 0 ∨ id > S.length) : d.extract id = some none := by
  rw [Dict.extract, hd.elements]
  exact if_neg (by omega)

/-- The walk from the row of `v ++ \1 …`, where `v` is a non-empty suffix of member `i`, returns `i + 1`. -/
theorem walk_member {S : List Str} {L : List Row} {d : Dict} (hv : validDict S = true) (hd : DictOK S L d)
    (hS : BuiltS (mkText S) L d.ix) (i : Nat) (hi : i < S.length) (u v : List Sym)
    (huv : symsOf S[i] = u ++ v) (hvne : v ≠ []) :
    walk d.ix (d.ix.bwt.length + 1) (lo L (v ++ 1 :: body (S.drop (i + 1)))) = some (i + 1) := by
  have hVS := validS_of_validDict hv
  have hs2 : Ge2 (symsOf S[i]) := hVS _ (List.getElem_mem hi)
  have hfuel := member_lt_bwt hd.sa hd.built i hi
  obtain ⟨y, w, rfl⟩ := List.exists_cons_of_ne_nil hvne
  obtain ⟨ur, rfl⟩ : ∃ ur, u = ur.reverse := ⟨u.reverse, (List.reverse_reverse u).symm⟩
  rw [huv] at hs2
  rw [huv, List.length_append, List.length_reverse] at hfuel
  have hbody : body (S.drop i) = ur.reverse ++ y :: (w ++ 1 :: body (S.drop (i + 1))) := by
    rw [body_drop S i hi, huv, List.append_assoc]
    rfl
  have hcount : (textBefore (S.take i)).count 1 + 1 = i + 1 := by
    rw [count_one_textBefore _ (fun t ht => hVS t (List.mem_of_mem_take ht)), List.length_take,
      Nat.min_eq_left (Nat.le_of_lt hi)]
  -- `occ[1] = 2` (rows `[]`, `[0]`): the separator row `i + 3` is `occ[1] + (i + 1)`
  have hocc1 : occOf (mkText S) 1 = 2 := by rw [← lo_single hd.sa, lo_one hd.sa hVS]
  have hID := lo_memberSep hv hd.sa i (Nat.le_of_lt hi)
  rw [if_neg (Nat.ne_of_lt hi), hbody] at hID
  exact walk_spec hd.sa hd.built hS hcount ur y (w ++ 1 :: body (S.drop (i + 1))) _ (hbody ▸ mkText_split S i)
    (fun x hx => hs2 x (List.mem_append_left _ (List.mem_reverse.mpr hx)))
    (hs2 y (List.mem_append_right _ List.mem_cons_self)) (by rw [hID, hocc1, Nat.add_comm 2])
    (Nat.lt_succ_of_lt (Nat.lt_of_le_of_lt (Nat.le_add_right _ _) hfuel))

theorem dictOK_buildDict (S : List Str) (samplesuff : Nat) :
    DictOK S (sortRows (mkText S)) (buildDict S samplesuff) :=
  ⟨isSA_sortRows _, built_buildIndex samplesuff, rfl⟩

theorem builtS_buildDict (S : List Str) (samplesuff : Nat) (h : 0 < samplesuff) :
    BuiltS (mkText S) (sortRows (mkText S)) (buildDict S samplesuff).ix :=
  builtS_buildIndex _ _ samplesuff h

theorem maxlength_buildDict (S : List Str) (samplesuff : Nat) : ∀ s ∈ S, s.length < (buildDict S samplesuff).maxlength :=
  PFC.maxlength_bounds 0 S

end CSD.FM
