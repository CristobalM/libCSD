import CSD.Model.HRPDACImage
import CSD.Lemmas.RGImage

/-! `load ∘ save = id` on bytes for the nested images `DAC_VLS`, `RePair` / `StringDictionaryRPDAC` and
`StringDictionaryHASHRPDAC`. Each theorem is the field list of its `save`, read back with the bounds its `WF` states. -/

open CSD.LogSeq (leBytes readLE readLE_leBytes)

namespace CSD.DACImg
open CSD.RG (le32s words32 le32s_not_short words32_le32s drop_le32s)

structure WF (d : Img) : Prop where
  tam_lt : d.tamCode < 2 ^ 32
  ll_lt : d.listLength < 2 ^ 32
  nl_lt : d.nLevels < 2 ^ 32
  bb_lt : d.baseBits < 2 ^ 16
  li_len : d.levelsIndex.length = d.nLevels + 1
  lv_len : d.levels.length = d.tamCode / 32 + 1
  rl_len : d.rankLevels.length = d.nLevels
  li_w : ∀ w ∈ d.levelsIndex, w < 2 ^ 32
  lv_w : ∀ w ∈ d.levels, w < 2 ^ 32
  rl_w : ∀ w ∈ d.rankLevels, w < 2 ^ 32
  bs_wf : RG.WF d.bs

/-- **`load (save d ++ rest) = (d, rest)`** for a DAC_VLS. -/
theorem loadImg_saveImg (d : Img) (wf : WF d) (rest : List UInt8) : loadImg (saveImg d ++ rest) = some (d, rest) := by
  simp only [loadImg, saveImg, List.append_assoc, readLE_leBytes 4 wf.tam_lt, readLE_leBytes 4 wf.ll_lt,
    readLE_leBytes 4 wf.nl_lt, readLE_leBytes 2 wf.bb_lt,
    le32s_not_short wf.li_len, words32_le32s wf.li_len wf.li_w, drop_le32s wf.li_len,
    le32s_not_short wf.lv_len, words32_le32s wf.lv_len wf.lv_w, drop_le32s wf.lv_len,
    le32s_not_short wf.rl_len, words32_le32s wf.rl_len wf.rl_w, drop_le32s wf.rl_len,
    RG.loadImg_saveImg d.bs wf.bs_wf, ↓reduceIte]

end CSD.DACImg

namespace CSD.RPDACImg

structure WFRP (r : RP) : Prop where
  mc : r.maxchar < 256
  t : r.terminals < 2 ^ 64
  ru : r.rules < 2 ^ 64
  gb : r.G.numbits < 256
  gn : r.G.numentries < 2 ^ 64
  gd : r.G.data.length = LogSeq.numWords r.G.numbits r.G.numentries
  enc : r.encoding < 2 ^ 32
  dac : DACImg.WF r.cdac

theorem loadRP_saveRP (tag tagH : Nat) (r : RP) (wf : WFRP r) (henc : r.encoding = tag ∨ r.encoding = tagH)
    (rest : List UInt8) : loadRP tag tagH (saveRP r ++ rest) = some (r, rest) := by
  simp only [loadRP, saveRP, List.append_assoc, readLE_leBytes 1 wf.mc, readLE_leBytes 8 wf.t, readLE_leBytes 8 wf.ru,
    LogSeq.load_save r.G wf.gb wf.gn wf.gd, readLE_leBytes 4 wf.enc, henc, DACImg.loadImg_saveImg r.cdac wf.dac,
    ↓reduceIte]

structure WF (d : Img) : Prop where
  el : d.elements < 2 ^ 64
  ml : d.maxlength < 2 ^ 32
  rp : WFRP d.rp

/-- **`load (save d ++ rest) = (d, rest)`** for a StringDictionaryRPDAC image. -/
theorem load_save (tag tagH : Nat) (htag : tag < 2 ^ 32) (d : Img) (wf : WF d) (henc : d.rp.encoding = tag ∨ d.rp.encoding = tagH)
    (rest : List UInt8) : load tag tagH (save tag d ++ rest) = some (d, rest) := by
  simp only [load, save, List.append_assoc, readLE_leBytes 4 htag, readLE_leBytes 8 wf.el, readLE_leBytes 4 wf.ml,
    loadRP_saveRP tag tagH d.rp wf.rp henc, ne_eq, not_true_eq_false, ↓reduceIte]

theorem load_foreign (tag tagH t : Nat) (ht : t < 2 ^ 32) (hne : t ≠ tag) (rest : List UInt8) :
    load tag tagH (leBytes t 4 ++ rest) = none := by
  simp only [load, readLE_leBytes 4 ht, hne, ne_eq, not_false_eq_true, ↓reduceIte]

end CSD.RPDACImg

namespace CSD.HRPDACImg

structure WF (d : Img) : Prop where
  el : d.elements < 2 ^ 64
  ml : d.maxlength < 2 ^ 32
  rp : RPDACImg.WFRP d.rp
  enc : d.rp.encoding = 124
  ts : d.tsize < 2 ^ 64
  n : d.n < 2 ^ 64
  bht : RG.WF d.bht

/-- **`load (save d ++ rest) = (d, rest)`** for a StringDictionaryHASHRPDAC image. -/
theorem load_save (d : Img) (wf : WF d) (rest : List UInt8) : load (save d ++ rest) = some (d, rest) := by
  simp only [load, save, List.append_assoc, readLE_leBytes 4 (show 124 < _ by decide), readLE_leBytes 8 wf.el,
    readLE_leBytes 4 wf.ml, RPDACImg.loadRP_saveRP 3 124 d.rp wf.rp (Or.inr wf.enc), readLE_leBytes 8 wf.ts,
    readLE_leBytes 8 wf.n, RG.loadImg_saveImg d.bht wf.bht, ne_eq, not_true_eq_false, ↓reduceIte]

end CSD.HRPDACImg
