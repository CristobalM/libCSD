import CSD.Lemmas.PFCBucket

/-! `IteratorDictStringPFC` by the position it stands at (`Before`); `extractTable()` of a built dictionary. -/
namespace CSD.PFC
open CSD

/-- The iterator stands in front of member `k·b + o` of `S`, whose text is followed by `rest`: at the edge of bucket `k`
(0-based), pointer at its header, or inside it, pointer at the strings from position `o` on front-coded against the
buffer. `o = b` is the far edge (`Before.roll`). -/
inductive Before (b : Nat) (S : List Str) (rest : List UInt8) (it : Iter) : Nat → Nat → Prop
  | edge (k : Nat) : it.bucketsize = b → it.pos % b = 0 →
      it.ptr = ((chunks b (S.drop (k * b))).map encBucket).flatten ++ rest → Before b S rest it k 0
  | inside (k o : Nat) : it.bucketsize = b → it.pos = o + 1 →
      it.ptr = encTail it.cur ((S.drop (k * b + (o + 1))).take (b - (o + 1))) ++
        (((chunks b (S.drop ((k + 1) * b))).map encBucket).flatten ++ rest) →
      Before b S rest it k (o + 1)

section
variable {b : Nat} {S : List Str} {rest : List UInt8}

theorem Iter.next_before (hS : ∀ s ∈ S, nulFree s) {it : Iter} {k o : Nat} (h : Before b S rest it k o)
    (ho : o < b) (hn : k * b + o < S.length) :
    ∃ it', it.next = some (S[k * b + o], it') ∧ it'.processed = it.processed + 1 ∧
      it'.scanneable = it.scanneable ∧ Before b S rest it' k (o + 1) := by
  cases h with
  | edge hbs hp hptr =>
    rw [Nat.add_zero] at hn
    rw [encChunks_cons b ho S _ hn, ← Nat.succ_mul, List.append_assoc, List.cons_append, List.append_assoc] at hptr
    simp only [Nat.add_zero, Iter.next, hbs, hp, ↓reduceIte, hptr, readCStr_append (hS _ (List.getElem_mem hn))]
    exact ⟨_, rfl, rfl, rfl, .inside k 0 rfl rfl rfl⟩
  | inside o hbs hp hptr =>
    rw [take_drop_cons S _ _ hn (Nat.sub_pos_of_lt ho), Nat.sub_sub] at hptr
    have hmod : ¬ it.pos % it.bucketsize = 0 := by
      rw [hbs, hp, Nat.mod_eq_of_lt ho]
      exact Nat.succ_ne_zero o
    simp only [Iter.next, hmod, ↓reduceIte, hptr, encTail, List.append_assoc,
      decodeNext_encInternal _ _ (hS _ (List.getElem_mem hn))]
    exact ⟨_, rfl, rfl, rfl, .inside k (o + 1) hbs (congrArg (· + 1) hp) rfl⟩

theorem Iter.drain_done (f : Nat) (it : Iter) (h : it.scanneable ≤ it.processed) : Iter.drain f it = some [] := by
  have : it.hasNext = false := decide_eq_false (Nat.not_lt.mpr h)
  cases f <;> simp [Iter.drain, this]

theorem Before.roll {it : Iter} {k o : Nat} (h : Before b S rest it k o) (ho : o = b) (hb : 0 < b) :
    Before b S rest it (k + 1) 0 := by
  cases h with
  | edge => exact absurd (ho ▸ hb) (Nat.lt_irrefl 0)
  | inside o hbs hp hptr =>
    rw [ho, Nat.sub_self, List.take_zero] at hptr
    exact .edge _ hbs (by rw [hp, ho, Nat.mod_self]) hptr

theorem Before.norm {it : Iter} {k o : Nat} (h : Before b S rest it k o) (ho : o ≤ b) (hb : 0 < b) :
    ∃ k' o', o' < b ∧ k' * b + o' = k * b + o ∧ Before b S rest it k' o' := by
  rcases Nat.lt_or_eq_of_le ho with h' | h'
  · exact ⟨k, o, h', rfl, h⟩
  · exact ⟨k + 1, 0, hb, by rw [Nat.succ_mul, h']; rfl, h.roll h' hb⟩

/-- From any position `n = k·b + o`, with any limit `m ≤ f`; `table_build`, the range scans and `extractPrefix` are
instances. -/
theorem Iter.drain_before (hS : ∀ s ∈ S, nulFree s) (hb : 0 < b) (f m : Nat) (it : Iter) (k o n : Nat)
    (hB : Before b S rest it k o) (ho : o ≤ b) (hpos : k * b + o = n) (hm : it.scanneable = it.processed + m)
    (hf : m ≤ f) (hlen : n + m ≤ S.length) : Iter.drain f it = some ((S.drop n).take m) := by
  induction m generalizing f it k o n with
  | zero => exact Iter.drain_done f it (Nat.le_of_eq hm)
  | succ m ih =>
    cases f with
    | zero => exact absurd hf (Nat.not_succ_le_zero m)
    | succ f =>
      obtain ⟨k', o', ho', hpos', hB'⟩ := hB.norm ho hb
      rw [hpos] at hpos'
      subst hpos'
      have hn : k' * b + o' < S.length := Nat.lt_of_lt_of_le (Nat.lt_add_of_pos_right (Nat.succ_pos m)) hlen
      obtain ⟨it', hnext, hp, hs, hB''⟩ := Iter.next_before hS hB' ho' hn
      have hhas : it.hasNext = true := by
        simp only [Iter.hasNext, decide_eq_true_eq, hm]
        exact Nat.lt_add_of_pos_right (Nat.succ_pos m)
      rw [Iter.drain, hhas, if_pos rfl, hnext]
      simp only
      rw [ih f it' k' (o' + 1) _ hB'' ho' rfl (by rw [hs, hp, hm, Nat.add_right_comm]; rfl)
        (Nat.le_of_succ_le_succ hf) (by rw [Nat.add_assoc, Nat.succ_add_eq_add_succ, ← Nat.add_assoc]; exact hlen),
        take_drop_cons S _ _ hn (Nat.succ_pos m)]
      rfl

theorem Iter.open_before (hS : ∀ s ∈ S, nulFree s) (k o sc : Nat) (ho : o < b) (hn : k * b + o < S.length) :
    ∃ it, Iter.open (((chunks b (S.drop (k * b))).map encBucket).flatten ++ rest) o b sc = some it ∧
      it.processed = 0 ∧ it.scanneable = sc ∧ Before b S rest it k o := by
  cases o with
  | zero => exact ⟨_, rfl, rfl, rfl, .edge k rfl (Nat.zero_mod _) rfl⟩
  | succ o =>
    have hk : k * b < S.length := Nat.lt_of_le_of_lt (Nat.le_add_right _ _) hn
    have hL : ∀ s ∈ (S.drop (k * b + 1)).take (b - 1), nulFree s :=
      fun s hs => hS s (List.mem_of_mem_drop (List.mem_of_mem_take hs))
    rw [encChunks_cons b (Nat.zero_lt_of_lt ho) S _ hk, ← Nat.succ_mul, List.append_assoc, List.cons_append,
      List.append_assoc]
    simp only [Iter.open, Nat.succ_pos, ↓reduceIte, readCStr_append (hS _ (List.getElem_mem hk)), Nat.add_sub_cancel]
    rw [decodeSteps_take o _ _ _ hL (tail_length_ge (Nat.lt_of_succ_lt ho) (Nat.lt_of_succ_lt hn))]
    -- the index shape of `Before.inside`: `(S.drop (k * b + (o + 1))).take (b - (o + 1))`
    rw [List.drop_take, List.drop_drop, Nat.add_assoc, Nat.add_comm 1 o, Nat.sub_sub, Nat.add_comm 1 o]
    exact ⟨_, rfl, rfl, rfl, .inside k o rfl rfl rfl⟩

end

/-- **Table scan is exact**: the iterator returned by `extractTable()` yields the members in order, `numElements` of
them; every read stays inside the text. -/
theorem table_build (b0 : Nat) (S : List Str) (hne : S ≠ []) (hS : ∀ s ∈ S, nulFree s) :
    table (build b0 S) = some S := by
  have hptr := bucketPtr_build_all b0 S 0
    (Nat.lt_of_le_of_lt (Nat.le_of_eq (Nat.zero_mul _)) (List.length_pos_iff.mpr hne))
  rw [Nat.zero_mul, List.drop_zero] at hptr
  unfold table
  rw [hptr, build_elements, build_bucketsize]
  simp only
  rw [Iter.drain_before (b := clamp b0) (rest := []) hS (clamp_pos b0) _ S.length _ (k := 0) (o := 0) (n := 0)
    (hB := .edge 0 rfl (Nat.zero_mod _) (by rw [Nat.zero_mul, List.drop_zero, List.append_nil]))
    (ho := Nat.zero_le _) (hpos := Nat.zero_mul _) (hm := (Nat.zero_add _).symm) (hf := Nat.le_refl _)
    (hlen := Nat.le_of_eq (Nat.zero_add _)), List.drop_zero, List.take_length]

/-! Not used by others: partial drains stated on an iterator state. -/

/-- Draining the rest of a bucket: `L` front-coded against the current string. -/
theorem drain_tail : ∀ (L : List Str) (rest : List UInt8) (pos bs : Nat) (cur : Str) (proc scan f : Nat),
    1 ≤ pos → pos + L.length ≤ bs → proc + L.length ≤ scan → (∀ s ∈ L, nulFree s) →
    Iter.drain (L.length + f) ⟨encTail cur L ++ rest, pos, bs, cur, proc, scan⟩ =
      (Iter.drain f ⟨rest, pos + L.length, bs, lastOf cur L, proc + L.length, scan⟩).map (L ++ ·) := by
  intro L
  induction L with
  | nil =>
    intro rest pos bs cur proc scan f _ _ _ _
    simp only [encTail, List.nil_append, List.length_nil, Nat.zero_add, Nat.add_zero, lastOf]
    cases Iter.drain f _ <;> rfl
  | cons s L ih =>
    intro rest pos bs cur proc scan f h1 h2 h3 hn
    obtain ⟨hs, hL⟩ := List.forall_mem_cons.mp hn
    rw [List.length_cons, ← Nat.add_assoc, Nat.add_right_comm] at h2 h3
    have hhas : (⟨encTail cur (s :: L) ++ rest, pos, bs, cur, proc, scan⟩ : Iter).hasNext = true :=
      decide_eq_true (Nat.le_trans (Nat.le_add_right _ _) h3)
    have hmod : ¬ pos % bs = 0 := by
      rw [Nat.mod_eq_of_lt (Nat.le_trans (Nat.le_add_right _ _) h2)]
      exact Nat.ne_of_gt h1
    rw [List.length_cons, Nat.add_right_comm, Iter.drain, hhas, if_pos rfl]
    simp only [Iter.next, hmod, ↓reduceIte, encTail, List.append_assoc, decodeNext_encInternal cur s hs]
    rw [ih rest (pos + 1) bs s (proc + 1) scan f (Nat.le_add_left 1 pos) h2 h3 hL, lastOf,
      Nat.add_assoc pos, Nat.add_assoc proc, Nat.add_comm 1]
    cases Iter.drain f _ <;> rfl

theorem chunks_flatten_eq (b : Nat) (hb : 0 < b) : ∀ (Cs : List (List Str)), (∀ c ∈ Cs, c ≠ [] ∧ c.length ≤ b) →
    (∀ i, i + 1 < Cs.length → ∀ c, Cs[i]? = some c → c.length = b) → chunks b Cs.flatten = Cs
  | [], _, _ => chunks_nil b
  | c :: Cs, hall, hfull => by
    obtain ⟨hne, hle⟩ := hall c List.mem_cons_self
    rw [List.flatten_cons, chunks_cons b _ (Nat.ne_of_gt hb) fun e => hne (List.append_eq_nil_iff.mp e).1]
    cases Cs with
    | nil => rw [List.flatten_nil, List.append_nil, List.take_of_length_le hle, List.drop_of_length_le hle, chunks_nil]
    | cons c2 Cs2 =>
      have hcb : c.length = b := hfull 0 (Nat.succ_lt_succ (Nat.succ_pos _)) c rfl
      rw [List.take_left' hcb, List.drop_left' hcb, chunks_flatten_eq b hb (c2 :: Cs2)
        (fun c hc => hall c (List.mem_cons_of_mem _ hc)) (fun i hi c hc => hfull (i + 1) (Nat.succ_lt_succ hi) c hc)]

/-- Draining whole buckets, whatever bytes follow them. -/
theorem drain_buckets (b : Nat) (hb : 2 ≤ b) : ∀ (Cs : List (List Str)) (rest : List UInt8) (pos : Nat) (cur : Str)
    (proc scan f : Nat),
    pos % b = 0 → scan = proc + Cs.flatten.length → Cs.flatten.length ≤ f →
    (∀ c ∈ Cs, c ≠ [] ∧ c.length ≤ b ∧ ∀ s ∈ c, nulFree s) →
    (∀ i, i + 1 < Cs.length → ∀ c, Cs[i]? = some c → c.length = b) →
    Iter.drain f ⟨(Cs.map encBucket).flatten ++ rest, pos, b, cur, proc, scan⟩ = some Cs.flatten := by
  intro Cs rest pos cur proc scan f hpos hsc hf hall hfull
  have hbpos : 0 < b := Nat.lt_of_lt_of_le Nat.zero_lt_two hb
  have hch := chunks_flatten_eq b hbpos Cs (fun c hc => ⟨(hall c hc).1, (hall c hc).2.1⟩) hfull
  have hS : ∀ s ∈ Cs.flatten, nulFree s := fun s hs => by
    obtain ⟨c, hc, hsc⟩ := List.mem_flatten.mp hs
    exact (hall c hc).2.2 s hsc
  rw [Iter.drain_before (b := b) hS hbpos f _ _ (k := 0) (o := 0) (n := 0)
    (hB := .edge 0 rfl hpos (by rw [Nat.zero_mul, List.drop_zero, hch])) (ho := Nat.zero_le _) (hpos := Nat.zero_mul _)
    (hm := hsc) (hf := hf) (hlen := Nat.le_of_eq (Nat.zero_add _)), List.drop_zero, List.take_length]

end CSD.PFC
