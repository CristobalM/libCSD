import CSD.Model.PFCPrefix
import CSD.Lemmas.PFCBasic
import CSD.Lemmas.Prefix

/-! The in-bucket scans of the PFC prefix search, `searchPrefix` and `searchDistinctPrefix`, on the rest of a
front-coded bucket. -/
namespace CSD.PFC
open CSD

/-- `longestCommonPrefix` against the pattern's C string: the sign is 0 when `a` is exhausted (the terminator of `b`
is never reached first, `a` being NUL-free), `strcmp`'s otherwise. -/
theorem lcpLoop_eq : ∀ (a b : Str) (n : Nat), nulFree a →
    lcpLoop a (b ++ [0]) n = some (if lcp a b = a.length then 0 else scmp a b, n + lcp a b)
  | [], b, n, _ => by simp [lcpLoop, lcp]
  | x :: as, [], n, ha => by
    have hx : x ≠ 0 := (nulFree_cons.mp ha).1
    simp [lcpLoop, hx, lcp, scmp]
  | x :: as, y :: bs, n, ha => by
    by_cases hxy : x = y
    · subst hxy
      simp only [List.cons_append, lcpLoop, ne_eq, not_true_eq_false, ↓reduceIte, lcp_cons_self, scmp_cons_self,
        List.length_cons, Nat.add_right_cancel_iff, lcpLoop_eq as bs (n + 1) (nulFree_cons.mp ha).2]
      rw [Nat.add_assoc, Nat.add_comm 1]
    · simp [lcpLoop, hxy, lcp_cons_ne hxy, scmp_cons_ne hxy]

theorem lcpLoop_spec (decoded q : Str) (sh : Nat) (hd : nulFree decoded) (hsh : sh ≤ lcp decoded q) :
    lcpLoop (decoded.drop sh) ((q ++ [0]).drop sh) sh =
      some (if lcp decoded q = decoded.length then 0 else scmp decoded q, lcp decoded q) := by
  have hl := lcp_add_drop decoded q sh hsh
  have hdl : sh ≤ decoded.length := Nat.le_trans hsh (lcp_le_left decoded q)
  have hc : lcp (decoded.drop sh) (q.drop sh) = (decoded.drop sh).length ↔ lcp decoded q = decoded.length := by
    rw [List.length_drop]; omega
  rw [List.drop_append_of_le_length (Nat.le_trans hsh (lcp_le_right decoded q)),
    lcpLoop_eq _ _ sh (nulFree_drop hd sh), ← hl, ← scmp_drop_lcp decoded q sh hsh]
  simp only [hc]

theorem searchPrefixLoop_found (q : Str) {c : Str} (hc : nulFree c) (fuel id sc sh : Nat) (ptr : List UInt8)
    (hsh : sh ≤ lcp c q) (hm : isPrefix q c = true) :
    searchPrefixLoop q (fuel + 1) id sc ptr c sh = some (id, ptr, c) := by
  have hl : lcp c q = q.length := lcp_comm q c ▸ (isPrefix_iff_lcp q c).mp hm
  simp [searchPrefixLoop, lcpLoop_spec c q sh hc hsh, hl]

/-- One round; of the sign that `longestCommonPrefix` returns only this much matters. -/
theorem searchPrefixLoop_cons (q : Str) {c c2 : Str} (hc : nulFree c) (hc2 : nulFree c2) (L : List Str)
    (rest : List UInt8) (fuel id sc sh : Nat) (hsh : sh ≤ lcp c q) (hm : isPrefix q c = false) (hid : id + 1 ≤ sc) :
    ∃ sgn : Int, (sgn > 0 → scmp q c < 0) ∧
      searchPrefixLoop q (fuel + 1) id sc (encTail c (c2 :: L) ++ rest) c sh =
        if sgn > 0 then some (0, encTail c (c2 :: L) ++ rest, c)
        else if lcp c c2 < lcp c q then some (0, encTail c (c2 :: L) ++ rest, c)
        else searchPrefixLoop q fuel (id + 1) sc (encTail c2 L ++ rest) c2 (lcp c q) := by
  have hl : lcp c q ≠ q.length := lcp_comm q c ▸ Nat.ne_of_lt (lcp_lt_of_isPrefix_false hm)
  obtain ⟨used, hdec, hrd⟩ := decode_encTail_cons c hc2 L rest
  have hle : ¬ lcp c c2 > c.length := Nat.not_lt.mpr (lcp_le_left c c2)
  refine ⟨if lcp c q = c.length then 0 else scmp c q, fun hpos => ?_, ?_⟩
  · split at hpos
    · omega
    · exact (scmp_lt_iff_gt q c).mpr hpos
  · simp only [searchPrefixLoop, lcpLoop_spec c q sh hc hsh, hl, ↓reduceIte, Nat.not_lt.mpr hid, or_false, hdec, hle,
      hrd, take_lcp_append_drop]

theorem no_match_from {q x : Str} {L : List Str} (hqx : scmp q x < 0) (hl : lcp q x < q.length) (hch : chain x L) :
    ∀ s ∈ x :: L, isPrefix q s = false :=
  have key : ∀ s, lcp q s ≤ lcp q x → isPrefix q s = false := fun s h =>
    Bool.eq_false_iff.mpr fun hm => Nat.not_le.mpr hl ((isPrefix_iff_lcp q s).mp hm ▸ h)
  List.forall_mem_cons.mpr
    ⟨key x (Nat.le_refl _), fun s hs => key s (lcp_le_of_between q x s hqx (chain_all_gt hch s hs))⟩

/-- `searchPrefix` on the rest of a bucket: `c` is the string just decoded (position `id`), `L` the strings behind it,
front-coded at the pointer; `sh` characters of `c` are known to agree with the pattern. -/
theorem searchPrefixLoop_split (q : Str) :
    ∀ (L : List Str) (c : Str) (id fuel sh : Nat) (rest : List UInt8),
      chain c L → nulFree c → (∀ s ∈ L, nulFree s) → L.length + 1 ≤ fuel → sh ≤ lcp c q →
      ∃ leftID ptr' dec, searchPrefixLoop q fuel id (id + L.length) (encTail c L ++ rest) c sh = some (leftID, ptr', dec) ∧
        ((leftID = 0 ∧ ∀ s ∈ c :: L, isPrefix q s = false) ∨
         ∃ A L', c :: L = A ++ dec :: L' ∧ leftID = id + A.length ∧ ptr' = encTail dec L' ++ rest ∧
           isPrefix q dec = true ∧ ∀ s ∈ A, isPrefix q s = false) := by
  intro L
  induction L with
  | nil =>
    intro c id fuel sh rest _ hc _ hf hsh
    obtain ⟨fuel, rfl⟩ := Nat.exists_eq_add_one_of_ne_zero (Nat.ne_of_gt (Nat.zero_lt_of_lt hf))
    cases hm : isPrefix q c with
    | true => exact ⟨id, _, c, searchPrefixLoop_found q hc _ _ _ _ _ hsh hm, Or.inr ⟨[], [], rfl, rfl, rfl, hm, nofun⟩⟩
    | false =>
      have hl : lcp c q ≠ q.length := lcp_comm q c ▸ Nat.ne_of_lt (lcp_lt_of_isPrefix_false hm)
      exact ⟨0, encTail c [] ++ rest, c, by simp [searchPrefixLoop, lcpLoop_spec c q sh hc hsh, hl],
        Or.inl ⟨rfl, by simpa using hm⟩⟩
  | cons c2 L ih =>
    intro c id fuel sh rest hch hc hL hf hsh
    obtain ⟨fuel, rfl⟩ := Nat.exists_eq_add_one_of_ne_zero (Nat.ne_of_gt (Nat.zero_lt_of_lt hf))
    cases hm : isPrefix q c with
    | true => exact ⟨id, _, c, searchPrefixLoop_found q hc _ _ _ _ _ hsh hm, Or.inr ⟨[], _, rfl, rfl, rfl, hm, nofun⟩⟩
    | false =>
      have hc2 : nulFree c2 := hL c2 List.mem_cons_self
      obtain ⟨sgn, hsgn, hstep⟩ := searchPrefixLoop_cons q hc hc2 L rest fuel id (id + (c2 :: L).length) sh hsh hm
        (Nat.add_le_add_left (Nat.succ_pos _) id)
      rw [hstep]
      have hlt := lcp_lt_of_isPrefix_false hm
      by_cases hpos : sgn > 0
      · -- `c` is above the pattern: so is everything behind it
        rw [if_pos hpos]
        exact ⟨0, _, c, rfl, Or.inl ⟨rfl, no_match_from (hsgn hpos) hlt hch⟩⟩
      · rw [if_neg hpos]
        by_cases hsp : lcp c c2 < lcp c q
        · -- `c2` shares less with `c` than the pattern does: it is above the pattern's range
          rw [if_pos hsp]
          have hl2 : lcp q c2 < q.length := by
            have h3 := lcp_trans_ge q c c2
            rw [lcp_comm q c] at h3
            have := lcp_le_right c q
            omega
          exact ⟨0, _, c, rfl, Or.inl ⟨rfl, List.forall_mem_cons.mpr
            ⟨hm, no_match_from (gt_of_lcp_lt c c2 q hsp hch.1) hl2 hch.2⟩⟩⟩
        · rw [if_neg hsp]
          obtain ⟨leftID, ptr', dec, hres, hcase⟩ := ih c2 (id + 1) fuel (lcp c q) rest hch.2 hc2
            (fun s hs => hL s (List.mem_cons_of_mem _ hs)) (Nat.le_of_succ_le_succ hf)
            (by have := lcp_trans_ge c c2 q; omega)
          rw [List.length_cons, ← Nat.add_assoc, Nat.add_right_comm]
          refine ⟨leftID, ptr', dec, hres, ?_⟩
          rcases hcase with ⟨h0, hnone⟩ | ⟨A, L', hsplit, hid', hp, hmd, hA⟩
          · exact Or.inl ⟨h0, List.forall_mem_cons.mpr ⟨hm, hnone⟩⟩
          · exact Or.inr ⟨c :: A, L', by rw [hsplit]; rfl, by rw [hid', List.length_cons, Nat.add_assoc, Nat.add_comm 1],
              hp, hmd, List.forall_mem_cons.mpr ⟨hm, hA⟩⟩

theorem searchDistinctLoop_cons (plen : Nat) (d : Str) {c2 : Str} (hc2 : nulFree c2) (L : List Str) (rest : List UInt8)
    (fuel id sc : Nat) (hid : id ≤ sc) :
    searchDistinctLoop plen (fuel + 1) id sc (encTail d (c2 :: L) ++ rest) d =
      if lcp d c2 < plen then some id else searchDistinctLoop plen fuel (id + 1) sc (encTail c2 L ++ rest) c2 := by
  obtain ⟨used, hdec, hrd⟩ := decode_encTail_cons d hc2 L rest
  have hle : ¬ lcp d c2 > d.length := Nat.not_lt.mpr (lcp_le_left d c2)
  simp only [searchDistinctLoop, hid, ↓reduceIte, hdec, hle, hrd, take_lcp_append_drop]

/-- **`searchDistinctPrefix` is exact**: from a string `d` that starts with the pattern, followed in
its bucket by `L`, it returns `id` plus the number of leading strings of `L` that keep the prefix. -/
theorem searchDistinctLoop_spec (q : Str) :
    ∀ (L : List Str) (d : Str) (id fuel sc : Nat) (rest : List UInt8),
      chain d L → nulFree d → (∀ s ∈ L, nulFree s) → isPrefix q d = true → sc + 1 = id + L.length →
      L.length + 1 ≤ fuel →
      searchDistinctLoop q.length fuel id sc (encTail d L ++ rest) d = some (id + (L.takeWhile (isPrefix q)).length) := by
  intro L
  induction L with
  | nil =>
    intro d id fuel sc rest _ _ _ _ hsc hf
    obtain ⟨fuel, rfl⟩ := Nat.exists_eq_add_one_of_ne_zero (Nat.ne_of_gt (Nat.zero_lt_of_lt hf))
    have hid : ¬ id ≤ sc := Nat.not_le.mpr (Nat.lt_of_lt_of_eq (Nat.lt_succ_self sc) hsc)
    rw [searchDistinctLoop, if_neg hid]
    rfl
  | cons c2 L ih =>
    intro d id fuel sc rest hch hd hL hpd hsc hf
    obtain ⟨fuel, rfl⟩ := Nat.exists_eq_add_one_of_ne_zero (Nat.ne_of_gt (Nat.zero_lt_of_lt hf))
    have hc2 : nulFree c2 := hL c2 List.mem_cons_self
    have hid : id ≤ sc := Nat.le_of_lt_succ (Nat.lt_of_lt_of_eq (Nat.lt_add_of_pos_right (Nat.succ_pos _)) hsc.symm)
    rw [searchDistinctLoop_cons q.length d hc2 L rest fuel id sc hid, List.takeWhile_cons]
    by_cases hlt : lcp d c2 < q.length
    · have hnp : ¬ isPrefix q c2 = true := fun h => Nat.not_le.mpr hlt ((isPrefix_iff_le_lcp hpd c2).mp h)
      rw [if_pos hlt, if_neg hnp]
      rfl
    · have hp2 : isPrefix q c2 = true := (isPrefix_iff_le_lcp hpd c2).mpr (Nat.le_of_not_lt hlt)
      have hsc' : sc + 1 = id + 1 + L.length := by rw [hsc, List.length_cons, Nat.add_right_comm, Nat.add_assoc]
      rw [if_neg hlt, if_pos hp2, ih c2 (id + 1) fuel sc rest hch.2 hc2 (fun s hs => hL s (List.mem_cons_of_mem _ hs))
        hp2 hsc' (Nat.le_of_succ_le_succ hf), List.length_cons, Nat.add_right_comm, Nat.add_assoc]

/-! Not used by others: `searchPrefixLoop_split` with its answer phrased over `firstMatch`, the two lemmas that
characterise `firstMatch`, and `lcp_comm'`, which is `lcp_comm`. -/

/-- Offset of the first string of a list that starts with `q`. -/
def firstMatch (q : Str) : List Str → Option Nat
  | [] => none
  | s :: rest => if isPrefix q s then some 0 else (firstMatch q rest).map (· + 1)

theorem firstMatch_eq_none_iff {q : Str} : ∀ {L : List Str}, firstMatch q L = none ↔ ∀ s ∈ L, isPrefix q s = false
  | [] => by simp [firstMatch]
  | a :: L => by
    cases ha : isPrefix q a <;> simp [firstMatch, ha, firstMatch_eq_none_iff (L := L)]

theorem firstMatch_of_split {q : Str} : ∀ {A : List Str} {m : Str} {L' : List Str},
    (∀ s ∈ A, isPrefix q s = false) → isPrefix q m = true → firstMatch q (A ++ m :: L') = some A.length
  | [], m, L', _, hm => by simp [firstMatch, hm]
  | a :: A, m, L', hA, hm => by
    simp [firstMatch, hA a (by simp), firstMatch_of_split (fun s hs => hA s (List.mem_cons_of_mem _ hs)) hm]

/-- **`searchPrefix` is exact** on the rest of a bucket: the position of the first string starting with the pattern, the
pointer behind it and that string; 0 when none of `c :: L` starts with the pattern. -/
theorem searchPrefixLoop_spec (q : Str) (hq : nulFree q) :
    ∀ (L : List Str) (c : Str) (id fuel scanneable sh : Nat) (rest : List UInt8),
      chain c L → nulFree c → (∀ s ∈ L, nulFree s) → scanneable = id + L.length → L.length + 1 ≤ fuel →
      sh ≤ lcp c q →
      match firstMatch q (c :: L) with
      | some j => ∃ m L', (c :: L).drop j = m :: L' ∧
          searchPrefixLoop q fuel id scanneable (encTail c L ++ rest) c sh = some (id + j, encTail m L' ++ rest, m)
      | none => (searchPrefixLoop q fuel id scanneable (encTail c L ++ rest) c sh).map (·.1) = some 0 := by
  intro L c id fuel scanneable sh rest hch hc hL hsc hf hsh
  subst hsc
  obtain ⟨leftID, ptr', dec, hres, hcase⟩ := searchPrefixLoop_split q L c id fuel sh rest hch hc hL hf hsh
  rcases hcase with ⟨rfl, hnone⟩ | ⟨A, L', hsplit, rfl, rfl, hm, hA⟩
  · rw [firstMatch_eq_none_iff.mpr hnone, hres]; rfl
  · rw [hsplit, firstMatch_of_split hA hm]
    exact ⟨dec, L', List.drop_left, hres⟩

theorem lcp_comm' (a b : Str) : lcp a b = lcp b a := lcp_comm a b

end CSD.PFC
