import CSD.Model.PFCPrefix
import CSD.Lemmas.Sorted
import CSD.Lemmas.PFCBasic

/-! The layout of a built PFC dictionary: where bucket `k` starts, what it holds, what reading it returns. -/

namespace CSD.PFC
open CSD

/-- The pointer to bucket `k + 1` is all the text from that bucket on. -/
theorem bucketPtr_build_all (b0 : Nat) (S : List Str) (k : Nat) (hk : k * clamp b0 < S.length) :
    bucketPtr (build b0 S) (k + 1) = some ((chunks (clamp b0) (S.drop (k * clamp b0))).map encBucket).flatten := by
  have hb : clamp b0 ≠ 0 := Nat.ne_of_gt (clamp_pos b0)
  generalize hencs : (chunks (clamp b0) S).map encBucket = encs
  have hklen : k < encs.length := by
    rw [← hencs, List.length_map]; exact (lt_chunks_length _ hb k S).mpr hk
  have hoff : (0 :: offsetsFrom 0 encs ++ [encs.flatten.length])[k + 1]? = some (encs.take k).flatten.length := by
    rw [List.cons_append, List.getElem?_cons_succ, List.getElem?_append_left (by rw [offsetsFrom_length]; exact hklen),
      offsetsFrom_getElem? encs 0 k hklen, Nat.zero_add]
  rw [bucketPtr, build_bl, build_text, hencs, hoff]
  dsimp only
  rw [← ListIdx.flatten_take_append_drop encs k, if_pos (by rw [List.length_append]; exact Nat.le_add_right _ _),
    List.drop_left, ← hencs, ← List.map_drop, chunks_drop _ hb]

/-- The `scanneable` value the query routines compute is the length of bucket `k` (0-based). -/
theorem scanneable_eq (b n k : Nat) (hb : 2 ≤ b) (hk : k * b < n) :
    (if k + 1 = (n + b - 1) / b ∧ n % b ≠ 0 then n % b else b) = min b (n - k * b) := by
  have hbpos : 0 < b := Nat.lt_of_lt_of_le Nat.zero_lt_two hb
  have hk' := (lt_buckets_iff b n k hbpos).mpr hk
  have hk1 := lt_buckets_iff b n (k + 1) hbpos
  -- `r` strings are left from bucket `k` on
  obtain ⟨r, rfl⟩ : ∃ r, n = k * b + r := ⟨n - k * b, (Nat.add_sub_cancel' (Nat.le_of_lt hk)).symm⟩
  rw [Nat.succ_mul, Nat.add_lt_add_iff_left] at hk1
  rw [Nat.add_sub_cancel_left, Nat.mul_add_mod_self_right]
  generalize (k * b + r + b - 1) / b = m at *
  rcases Nat.lt_or_ge b r with hbr | hrb
  · rw [if_neg fun h => Nat.ne_of_lt (hk1.mpr hbr) h.1, Nat.min_eq_left (Nat.le_of_lt hbr)]
  · -- bucket `k` is the last one
    have hm : k + 1 = m := Nat.le_antisymm hk' (Nat.not_lt.mp (mt hk1.mp (Nat.not_lt.mpr hrb)))
    rw [Nat.min_eq_right hrb]
    rcases Nat.lt_or_eq_of_le hrb with hlt | rfl
    · rw [Nat.mod_eq_of_lt hlt, if_pos ⟨hm, Nat.ne_of_gt (Nat.lt_of_add_lt_add_left hk)⟩]
    · rw [Nat.mod_self, if_neg fun h => h.2 rfl]

section
variable (b0 : Nat) (S : List Str)

/-- The bucket headers as a function of the bucket number (1-based). -/
def hd (k : Nat) : Str := S.getD ((k - 1) * clamp b0) []

theorem idx_lt_iff {k : Nat} (h1 : 1 ≤ k) : (k - 1) * clamp b0 < S.length ↔ k ≤ (build b0 S).buckets := by
  rw [build_buckets, ← lt_buckets_iff _ _ _ (clamp_pos b0), Nat.lt_iff_add_one_le, Nat.sub_add_cancel h1]

theorem getElem?_hd {k : Nat} (h1 : 1 ≤ k) {h : Str} :
    S[(k - 1) * clamp b0]? = some h ↔ k ≤ (build b0 S).buckets ∧ hd b0 S k = h := by
  rw [← idx_lt_iff b0 S h1, hd, List.getD_eq_getElem?_getD]
  constructor
  · intro e
    exact ⟨(List.getElem?_eq_some_iff.mp e).1, by rw [e]; rfl⟩
  · rintro ⟨hlt, rfl⟩
    rw [List.getElem?_eq_getElem hlt]; rfl

theorem hd_mem {k : Nat} (h1 : 1 ≤ k) (h2 : k ≤ (build b0 S).buckets) : hd b0 S k ∈ S :=
  List.mem_of_getElem? ((getElem?_hd b0 S h1).mpr ⟨h2, rfl⟩)

theorem bucket_idx_lt (k : Nat) (h1 : 1 ≤ k) (h2 : k ≤ (build b0 S).buckets) : (k - 1) * clamp b0 < S.length :=
  (idx_lt_iff b0 S h1).mpr h2

theorem hd_get (k : Nat) (h1 : 1 ≤ k) (h2 : k ≤ (build b0 S).buckets) :
    hd b0 S k = S[(k - 1) * clamp b0]'(bucket_idx_lt b0 S k h1 h2) := by
  have := (getElem?_hd b0 S h1).mpr ⟨h2, rfl⟩
  rw [List.getElem?_eq_getElem (bucket_idx_lt b0 S k h1 h2)] at this
  exact (Option.some.inj this).symm

theorem hd_lt (hsort : SortedLt S) (a b : Nat) (h1 : 1 ≤ a) (hab : a < b) (hb : b ≤ (build b0 S).buckets) :
    scmp (hd b0 S a) (hd b0 S b) < 0 := by
  rw [hd_get b0 S a h1 (Nat.le_trans (Nat.le_of_lt hab) hb), hd_get b0 S b (Nat.le_trans h1 (Nat.le_of_lt hab)) hb]
  exact hsort.getElem_lt (Nat.mul_lt_mul_of_lt_of_le (Nat.sub_lt_sub_right h1 hab) (Nat.le_refl _) (clamp_pos b0)) _

end

/-- Bucket `k` (1-based) of `S` with bucket size `B`. -/
def bucketOf (B : Nat) (S : List Str) (k : Nat) : List Str := (S.drop ((k - 1) * B)).take B

theorem bucketOf_length (B : Nat) (S : List Str) (k : Nat) :
    (bucketOf B S k).length = min B (S.length - (k - 1) * B) := by
  simp [bucketOf]

theorem bucketOf_getElem? (B : Nat) (S : List Str) (k j : Nat) (hj : j < B) :
    (bucketOf B S k)[j]? = S[(k - 1) * B + j]? := by
  rw [bucketOf, List.getElem?_take_of_lt hj, List.getElem?_drop]

theorem bucketOf_length_le (B : Nat) (S : List Str) (k : Nat) : (bucketOf B S k).length ≤ B :=
  bucketOf_length B S k ▸ Nat.min_le_left _ _

/-- A bucket split at one of its strings, as `searchPrefix` leaves it (for `PFCLocatePrefix`). -/
theorem bucketOf_at {B k : Nat} {S A Y : List Str} {d : Str} (hB : bucketOf B S k = A ++ d :: Y) :
    S[(k - 1) * B + A.length]? = some d := by
  have hlen := bucketOf_length_le B S k
  rw [hB, List.length_append, List.length_cons] at hlen
  rw [← bucketOf_getElem? B S k _ (Nat.lt_of_lt_of_le (Nat.lt_add_of_pos_right (Nat.succ_pos _)) hlen), hB,
    List.getElem?_append_right (Nat.le_refl _), Nat.sub_self]
  rfl

/-- `P` up to a position inside bucket `k`, from `P` before the bucket and on its part `A`. -/
theorem bucketOf_prefix {B k : Nat} {S A Y : List Str} (hB : bucketOf B S k = A ++ Y) {P : Str → Prop}
    (hbefore : ∀ i (h : i < S.length), i < (k - 1) * B → P S[i]) (hA : ∀ s ∈ A, P s) :
    ∀ i s, i < (k - 1) * B + A.length → S[i]? = some s → P s := by
  intro i s hi hs
  rcases Nat.lt_or_ge i ((k - 1) * B) with h | h
  · obtain ⟨hlt, rfl⟩ := List.getElem?_eq_some_iff.mp hs
    exact hbefore i hlt h
  · have hlen := bucketOf_length_le B S k
    rw [hB, List.length_append] at hlen
    obtain ⟨j, rfl⟩ : ∃ j, i = (k - 1) * B + j := ⟨i - (k - 1) * B, (Nat.add_sub_cancel' h).symm⟩
    have hj : j < A.length := Nat.lt_of_add_lt_add_left hi
    rw [← bucketOf_getElem? B S k j (Nat.lt_of_lt_of_le hj (Nat.le_trans (Nat.le_add_right _ _) hlen)), hB,
      List.getElem?_append_left hj] at hs
    exact hA s (List.mem_iff_getElem?.mpr ⟨j, hs⟩)

theorem bucketOf_end {B k : Nat} {S : List Str} (h1 : 1 ≤ k) {i : Nat} (h : i < S.length)
    (hi : (k - 1) * B + (bucketOf B S k).length ≤ i) : k * B ≤ i := by
  rw [bucketOf_length] at hi
  rcases Nat.le_total B (S.length - (k - 1) * B) with hle | hle
  · rw [Nat.min_eq_left hle, ← Nat.succ_mul, Nat.succ_eq_add_one, Nat.sub_add_cancel h1] at hi
    exact hi
  · -- a short bucket ends with `S`
    rw [Nat.min_eq_right hle] at hi
    have hlen : S.length ≤ i := Nat.le_trans (Nat.sub_le_iff_le_add'.mp (Nat.le_refl _)) hi
    exact absurd (Nat.lt_of_le_of_lt hlen h) (Nat.lt_irrefl _)

theorem hdrOf_eq_some {d : T} {k : Nat} {x : Str × List UInt8} (h : hdrOf d k = some x) :
    ∃ p, bucketPtr d k = some p ∧ readCStr p = some x := by
  unfold hdrOf at h
  cases hp : bucketPtr d k with
  | none => rw [hp] at h; cases h
  | some p => rw [hp] at h; exact ⟨p, rfl, h⟩

section
variable (b0 : Nat) (S : List Str)

theorem hdrOf_build (hS : ∀ s ∈ S, nulFree s) (k : Nat) (h1 : 1 ≤ k) (h2 : k ≤ (build b0 S).buckets) :
    ∃ L rest, bucketOf (clamp b0) S k = hd b0 S k :: L ∧
      hdrOf (build b0 S) k = some (hd b0 S k, encTail (hd b0 S k) L ++ rest) := by
  have hk := bucket_idx_lt b0 S k h1 h2
  have hb := clamp_pos b0
  have hp := bucketPtr_build_all b0 S (k - 1) hk
  rw [Nat.sub_add_cancel h1, encChunks_cons _ hb S _ hk, ← hd_get b0 S k h1 h2] at hp
  exact ⟨_, _, by rw [bucketOf, take_drop_cons S _ _ hk hb, hd_get b0 S k h1 h2],
    by rw [hdrOf, hp]; exact readCStr_append (hS _ (hd_mem b0 S h1 h2)) _⟩

/-- In this order: contents; what `hdrOf` reads; sorted; header NUL-free; rest NUL-free; `scanneableOf`. -/
theorem bucket_facts (hS : ∀ s ∈ S, nulFree s) (k : Nat) (h1 : 1 ≤ k) (h2 : k ≤ (build b0 S).buckets) :
    ∃ L rest, bucketOf (clamp b0) S k = hd b0 S k :: L ∧
      hdrOf (build b0 S) k = some (hd b0 S k, encTail (hd b0 S k) L ++ rest) ∧
      (SortedLt S → SortedLt (hd b0 S k :: L)) ∧ nulFree (hd b0 S k) ∧ (∀ s ∈ L, nulFree s) ∧
      scanneableOf (build b0 S) k = 1 + L.length := by
  obtain ⟨L, rest, hL, hh⟩ := hdrOf_build b0 S hS k h1 h2
  have hmem : ∀ s ∈ hd b0 S k :: L, nulFree s := fun s hs =>
    hS s (List.mem_of_mem_drop (List.mem_of_mem_take (hL ▸ hs)))
  refine ⟨L, rest, hL, hh, fun hsort => hL ▸ sortedLt_chunk hsort _ _, hmem _ (by simp),
    fun s hs => hmem _ (by simp [hs]), ?_⟩
  have hlen := bucketOf_length (clamp b0) S k
  rw [hL, List.length_cons] at hlen
  have hsc := scanneable_eq (clamp b0) S.length (k - 1) (clamp_ge_two b0) (bucket_idx_lt b0 S k h1 h2)
  rw [Nat.sub_add_cancel h1] at hsc
  rw [scanneableOf, build_elements, build_bucketsize, build_buckets, hsc, ← hlen, Nat.add_comm]

end

end CSD.PFC
