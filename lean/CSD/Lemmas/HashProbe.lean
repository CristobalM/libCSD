import CSD.Model.Hash

/-! Double hashing: with a prime table size the `m` probes of a key are pairwise distinct, hence visit every cell
(`ProbeOK`). `nearest_prime`'s test admits primes and 1 only, its trial division being sound; `nearestPrime` returns
an admitted size unless its fuel ran out. Also what a probe loop, a `findSome?` over `range m`, returns. -/
namespace CSD.Hash

def IsPrime (m : Nat) : Prop := 2 ≤ m ∧ ∀ d, d ∣ m → d = 1 ∨ d = m

theorem coprime_of_prime_lt {m k : Nat} (hp : IsPrime m) (h0 : 0 < k) (hk : k < m) : Nat.Coprime m k := by
  rcases hp.2 _ (Nat.gcd_dvd_left m k) with h | h
  · exact h
  · exact absurd (Nat.le_of_dvd h0 (h ▸ Nat.gcd_dvd_right m k)) (Nat.not_le_of_lt hk)

theorem bitwisehash_lt (w : Str) (m : Nat) (hm : 0 < m) : bitwisehash w m < m :=
  Nat.mod_lt _ hm

theorem stepValue_range (w : Str) (m : Nat) (hm : 2 ≤ m) : 1 ≤ stepValue w m ∧ stepValue w m < m := by
  unfold stepValue
  rw [if_neg (Nat.ne_of_gt hm)]
  dsimp only
  generalize List.foldl _ _ w = x
  split
  · exact ⟨Nat.le_refl 1, hm⟩
  · rename_i h
    exact ⟨Nat.pos_of_ne_zero h, Nat.lt_of_lt_of_le (Nat.mod_lt _ (Nat.sub_pos_of_lt hm)) (Nat.sub_le m 1)⟩

theorem probe_lt (h h2 m i : Nat) (hm : 0 < m) : probe h h2 m i < m := Nat.mod_lt _ hm

theorem probe_injective {m h h2 : Nat} (hp : IsPrime m) (h2pos : 0 < h2) (h2lt : h2 < m)
    {i j : Nat} (hi : i < m) (hj : j < m) (heq : probe h h2 m i = probe h h2 m j) : i = j := by
  -- for `a ≤ b < m`: `m` divides `(b - a)·h2`, hence `b - a`, which is below `m`
  have key : ∀ a b : Nat, a ≤ b → b < m → probe h h2 m a = probe h h2 m b → a = b := by
    intro a b hab hb he
    have h0 := Nat.sub_mod_eq_zero_of_mod_eq he.symm
    rw [Nat.add_sub_add_left, ← Nat.sub_mul] at h0
    have hd : m ∣ b - a :=
      (coprime_of_prime_lt hp h2pos h2lt).dvd_of_dvd_mul_right (Nat.dvd_of_mod_eq_zero h0)
    exact Nat.le_antisymm hab (Nat.sub_eq_zero_iff_le.mp
      (Nat.eq_zero_of_dvd_of_lt hd (Nat.lt_of_le_of_lt (Nat.sub_le b a) hb)))
  rcases Nat.le_total i j with h' | h'
  · exact key i j h' hj heq
  · exact (key j i h' hi heq.symm).symm

theorem oddTrial_sound (p fuel : Nat) : ∀ (i : Nat), oddTrial p fuel i = true → Nat.sqrt p < i + fuel →
    ∀ a, i ≤ a → a ≤ Nat.sqrt p → 2 ∣ a - i → p % a ≠ 0 := by
  induction fuel with
  | zero => exact fun i _ hf a hia ha _ => absurd (Nat.lt_of_le_of_lt (Nat.le_trans hia ha) hf) (Nat.lt_irrefl _)
  | succ fuel ih =>
    intro i h hf a hia ha hpar
    unfold oddTrial at h
    rw [if_pos (Nat.lt_succ_of_le (Nat.le_trans hia ha))] at h
    split at h
    · cases h
    · rename_i hne
      rcases Nat.eq_or_lt_of_le hia with rfl | hlt
      · exact hne
      · -- `a` is another candidate: at least `i + 2`, the next one tried
        have h2 : 2 ≤ a - i := Nat.le_of_dvd (Nat.sub_pos_of_lt hlt) hpar
        refine ih (i + 2) h ?_ a (Nat.add_le_of_le_sub' hia h2) ha ?_
        · rw [Nat.add_right_comm]; exact Nat.lt_succ_of_lt hf
        · rw [Nat.sub_add_eq]; exact Nat.dvd_sub hpar (Nat.dvd_refl 2)

theorem le_sqrt_of_sq_le {a p : Nat} (h : a * a ≤ p) : a ≤ Nat.sqrt p := by
  apply Classical.byContradiction
  intro hc
  exact Nat.lt_irrefl p (Nat.lt_of_lt_of_le (Nat.lt_succ_sqrt p)
    (Nat.le_trans (Nat.mul_le_mul (Nat.lt_of_not_le hc) (Nat.lt_of_not_le hc)) h))

theorem three_le_of_odd : ∀ {q : Nat}, q % 2 = 1 → q ≠ 1 → 3 ≤ q
  | 0, h, _ | 2, h, _ => absurd h Nat.zero_ne_one
  | 1, _, h => absurd rfl h
  | n + 3, _, _ => Nat.le_add_left 3 n

theorem no_small_factor {p : Nat} (hodd : p % 2 = 1)
    (ht : oddTrial p (Nat.sqrt p + 2) 3 = true) (a b : Nat) (hab : p = a * b) (hle : a ≤ b) : a = 1 := by
  apply Classical.byContradiction
  intro hne
  -- `a` is odd as `p` is, not 1, and at most `⌊√p⌋`: one of the trial divisors `3, 5, …`
  have haodd : a % 2 = 1 := (Nat.mod_two_eq_zero_or_one a).resolve_left fun e =>
    Nat.zero_ne_one ((Nat.mod_eq_zero_of_dvd (Nat.dvd_trans (Nat.dvd_of_mod_eq_zero e) ⟨b, hab⟩)).symm.trans hodd)
  have hfuel : Nat.sqrt p < 3 + (Nat.sqrt p + 2) := Nat.lt_add_left 3 (Nat.lt_add_of_pos_right (Nat.succ_pos 1))
  have hpar : 2 ∣ a - 3 := Nat.dvd_of_mod_eq_zero (Nat.sub_mod_eq_zero_of_mod_eq (show a % 2 = 3 % 2 from haodd))
  exact oddTrial_sound p _ 3 ht hfuel a (three_le_of_odd haodd hne)
    (le_sqrt_of_sq_le (hab ▸ Nat.mul_le_mul_left a hle)) hpar (hab ▸ Nat.mul_mod_right _ b)

theorem prime_of_oddTrial {p : Nat} (h3 : 3 ≤ p) (hodd : p % 2 = 1)
    (ht : oddTrial p (Nat.sqrt p + 2) 3 = true) : IsPrime p := by
  refine ⟨Nat.le_of_succ_le h3, ?_⟩
  rintro d ⟨e, he⟩
  -- the smaller of the two factors is 1
  rcases Nat.le_total d e with h | h
  · exact .inl (no_small_factor hodd ht d e he h)
  · have : e = 1 := no_small_factor hodd ht e d (he.trans (Nat.mul_comm d e)) h
    rw [this, Nat.mul_one] at he
    exact .inr he.symm

/-- The test `nearest_prime` applies to each candidate. -/
def accepted (q : Nat) : Bool := q % 2 ≠ 0 && oddTrial q (Nat.sqrt q + 2) 3

theorem accepted_prime_or_one {q : Nat} (h : accepted q = true) : q = 1 ∨ IsPrime q := by
  unfold accepted at h
  rw [Bool.and_eq_true, decide_eq_true_eq] at h
  have hodd := (Nat.mod_two_eq_zero_or_one q).resolve_left h.1
  by_cases h1 : q = 1
  · exact .inl h1
  · exact .inr (prime_of_oddTrial (three_le_of_odd hodd h1) hodd h.2)

theorem nearestPrime_spec : ∀ (fuel p : Nat),
    accepted (nearestPrime fuel p) = true ∨ nearestPrime fuel p = p + fuel
  | 0, p => .inr rfl
  | fuel + 1, p => by
    unfold nearestPrime
    split
    · rename_i h; exact .inl h
    · exact (nearestPrime_spec fuel (p + 1)).imp_right fun h => h.trans (Nat.add_right_comm p 1 fuel)

theorem nearestPrime_ge : ∀ (fuel p : Nat), p ≤ nearestPrime fuel p
  | 0, p => Nat.le_refl p
  | fuel + 1, p => by
    unfold nearestPrime
    split
    · exact Nat.le_refl p
    · exact Nat.le_of_succ_le (nearestPrime_ge fuel (p + 1))

/-- Probe sequence of a key in a table of size `m`. -/
def pr (m : Nat) (w : Str) (i : Nat) : Nat := probe (bitwisehash w m) (stepValue w m) m i

theorem pr_lt (m : Nat) (hm : 0 < m) (w : Str) (i : Nat) : pr m w i < m := Nat.mod_lt _ hm

/-- What the open-addressing arguments need of the table size: true of a prime, and of 1. -/
def ProbeOK (m : Nat) : Prop := 0 < m ∧ ∀ (w : Str) (i j : Nat), i < m → j < m → pr m w i = pr m w j → i = j

theorem probeOK_of_prime {m : Nat} (hp : IsPrime m) : ProbeOK m :=
  ⟨Nat.lt_of_lt_of_le (Nat.succ_pos 1) hp.1, fun w _ _ hi hj h =>
    probe_injective hp (stepValue_range w m hp.1).1 (stepValue_range w m hp.1).2 hi hj h⟩

theorem probeOK_one : ProbeOK 1 :=
  ⟨Nat.one_pos, fun _ _ _ hi hj _ => (Nat.lt_one_iff.mp hi).trans (Nat.lt_one_iff.mp hj).symm⟩

theorem probeOK_of_accepted {m : Nat} (h : accepted m = true) : ProbeOK m := by
  rcases accepted_prime_or_one h with e | e
  · subst e; exact probeOK_one
  · exact probeOK_of_prime e

theorem pigeonhole (l : List Nat) (m : Nat) (hlen : l.length = m) (hlt : ∀ x ∈ l, x < m) (hnd : l.Nodup) :
    ∀ s, s < m → s ∈ l := by
  intro s hs
  apply Classical.byContradiction
  intro hns
  -- otherwise `l` fits into the `m - 1` numbers below `m` other than `s`
  have hsub : l ⊆ (List.range m).erase s := fun x hx =>
    (List.mem_erase_of_ne (fun e : x = s => hns (e ▸ hx))).mpr (List.mem_range.mpr (hlt x hx))
  have := hnd.length_le_of_subset hsub
  rw [List.length_erase_of_mem (List.mem_range.mpr hs), List.length_range, hlen] at this
  exact absurd this (Nat.not_le_of_lt (Nat.sub_lt (Nat.zero_lt_of_lt hs) Nat.one_pos))

theorem ProbeOK.cover {m : Nat} (hp : ProbeOK m) (w : Str) (s : Nat) (hs : s < m) : ∃ i, i < m ∧ pr m w i = s := by
  have hmem : s ∈ (List.range m).map (pr m w) := by
    refine pigeonhole _ m (by rw [List.length_map, List.length_range]) (fun x hx => ?_) ?_ s hs
    · obtain ⟨i, _, rfl⟩ := List.mem_map.mp hx
      exact pr_lt m hp.1 w i
    · refine (List.pairwise_map.mpr ?_ : List.Nodup _)
      exact List.nodup_range.imp_of_mem fun ha hb hab heq =>
        hab (hp.2 w _ _ (List.mem_range.mp ha) (List.mem_range.mp hb) heq)
  obtain ⟨i, hi, rfl⟩ := List.mem_map.mp hmem
  exact ⟨i, List.mem_range.mp hi, rfl⟩

theorem findSome?_range_none {α : Type} (f : Nat → Option α) (m : Nat) (h : ∀ j, j < m → f j = none) :
    (List.range m).findSome? f = none :=
  List.findSome?_eq_none_iff.mpr fun x hx => h x (List.mem_range.mp hx)

theorem range_findSome?_none {α : Type} (f : Nat → Option α) (m : Nat)
    (h : (List.range m).findSome? f = none) : ∀ j, j < m → f j = none :=
  fun j hj => List.findSome?_eq_none_iff.mp h j (List.mem_range.mpr hj)

theorem findSome?_range_first {α : Type} (f : Nat → Option α) (m i : Nat) (a : α) (hi : i < m)
    (hnone : ∀ j, j < i → f j = none) (hsome : f i = some a) :
    (List.range m).findSome? f = some a := by
  induction m with
  | zero => exact absurd hi (Nat.not_lt_zero i)
  | succ m ih =>
    rw [List.range_succ, List.findSome?_append]
    rcases Nat.lt_or_eq_of_le (Nat.le_of_lt_succ hi) with him | rfl
    · rw [ih him]; rfl
    · rw [findSome?_range_none f i hnone, List.findSome?_singleton, hsome]; rfl

theorem findSome?_range_some {α : Type} (f : Nat → Option α) (a : α) (m : Nat) :
    (List.range m).findSome? f = some a → ∃ i, i < m ∧ f i = some a ∧ ∀ j, j < i → f j = none := by
  induction m with
  | zero => exact fun h => nomatch h
  | succ m ih =>
    intro h
    rw [List.range_succ, List.findSome?_append] at h
    cases hm : (List.range m).findSome? f with
    | some b =>
      rw [hm] at h
      obtain ⟨i, hi, h1, h2⟩ := ih (hm.trans h)
      exact ⟨i, Nat.lt_succ_of_lt hi, h1, h2⟩
    | none =>
      rw [hm, Option.none_or, List.findSome?_singleton] at h
      exact ⟨m, Nat.lt_succ_self m, h, range_findSome?_none f m hm⟩

end CSD.Hash
