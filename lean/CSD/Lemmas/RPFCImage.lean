import CSD.Model.RPFCImage
import CSD.Lemmas.LogSeqIO
import CSD.Lemmas.BitList

/-! The image of `StringDictionaryRPFC`: `load ∘ save = id` on bytes; and its symbol fields: `unpack` (repeated
`decodeSymbol`, most significant bit first) inverts the packing of `w`-bit fields, whatever padding of fewer than
`w` bits follows (the constructor pads the last byte of a bucket with zeros, and `w ≥ 9`). -/
namespace CSD.RPFCImg
open CSD.LogSeq (leBytes readLE_leBytes)

structure WF (d : Img) : Prop where
  el : d.elements < 2 ^ 64
  ml : d.maxlength < 2 ^ 32
  bk : d.buckets < 2 ^ 32
  bs : d.bucketsize < 2 ^ 32
  tx : d.text.length < 2 ^ 64
  blb : d.bl.numbits < 256
  bln : d.bl.numentries < 2 ^ 64
  bld : d.bl.data.length = LogSeq.numWords d.bl.numbits d.bl.numentries
  bits : d.bitsrp < 2 ^ 32
  mc : d.maxchar < 256
  tm : d.terminals < 2 ^ 64
  ru : d.rules < 2 ^ 64
  gb : d.G.numbits < 256
  gn : d.G.numentries < 2 ^ 64
  gd : d.G.data.length = LogSeq.numWords d.G.numbits d.G.numentries

/-- **`StringDictionaryRPFC::load ∘ save = id`** on bytes. -/
theorem load_save (tag : Nat) (htag : tag < 2 ^ 32) (d : Img) (wf : WF d) (rest : List UInt8) :
    load tag (save tag d ++ rest) = some (d, rest) := by
  simp only [load, save, List.append_assoc, readLE_leBytes 4 htag, readLE_leBytes 8 wf.el, readLE_leBytes 4 wf.ml,
    readLE_leBytes 4 wf.bk, readLE_leBytes 4 wf.bs, readLE_leBytes 8 wf.tx,
    List.length_append, Nat.not_lt.mpr (Nat.le_add_right _ _), List.drop_left, List.take_left,
    LogSeq.load_save d.bl wf.blb wf.bln wf.bld, readLE_leBytes 4 wf.bits, readLE_leBytes 1 wf.mc,
    readLE_leBytes 8 wf.tm, readLE_leBytes 8 wf.ru, LogSeq.load_save d.G wf.gb wf.gn wf.gd,
    ne_eq, not_true_eq_false, ↓reduceIte]

theorem load_foreign (tag t : Nat) (ht : t < 2 ^ 32) (hne : t ≠ tag) (rest : List UInt8) :
    load tag (leBytes t 4 ++ rest) = none := by
  simp only [load, readLE_leBytes 4 ht, hne, ne_eq, not_false_eq_true, ↓reduceIte]

/-- The `w` bits of a symbol, most significant first (what `encodeSymbol` writes). -/
def bitsOfSym (w x : Nat) : List Bool := (List.range w).map fun i => x.testBit (w - 1 - i)

-- `bitsOfSym`, `natOfBits` are `ChunkDec.idxBits`, `bitsVal` by `rfl`
theorem bitsOfSym_length (w x : Nat) : (bitsOfSym w x).length = w := ChunkDec.idxBits_length w x

theorem natOfBits_bitsOfSym (w x : Nat) (hx : x < 2 ^ w) : natOfBits (bitsOfSym w x) = x :=
  ChunkDec.bitsVal_idxBits w x hx

def pack (w : Nat) (syms : List Nat) : List Bool := syms.flatMap (bitsOfSym w)

/-- **`unpack ∘ pack = id`**, whatever padding shorter than a field follows. -/
theorem unpack_pack (w : Nat) (hw : 0 < w) : ∀ (syms : List Nat) (pad : List Bool) (fuel : Nat),
    (∀ x ∈ syms, x < 2 ^ w) → pad.length < w → syms.length < fuel →
    unpack w fuel (pack w syms ++ pad) = syms
  | _, _, 0, _, _, hf => absurd hf (Nat.not_lt_zero _)
  | [], pad, f + 1, _, hp, _ => by
    rw [pack, List.flatMap_nil, List.nil_append, unpack, if_pos (Or.inr hp)]
  | x :: syms, pad, f + 1, hx, hp, hf => by
    have hlen := bitsOfSym_length w x
    have hnot : ¬ (w = 0 ∨ (bitsOfSym w x ++ (pack w syms ++ pad)).length < w) := by
      rw [List.length_append, hlen]
      exact fun h => h.elim (Nat.ne_of_gt hw) (Nat.not_lt.mpr (Nat.le_add_right _ _))
    rw [pack, List.flatMap_cons, List.append_assoc, ← pack, unpack, if_neg hnot, List.take_left' hlen,
      List.drop_left' hlen, natOfBits_bitsOfSym w x (hx x List.mem_cons_self),
      unpack_pack w hw syms pad f (fun y hy => hx y (List.mem_cons_of_mem x hy)) hp (Nat.lt_of_succ_lt_succ hf)]

end CSD.RPFCImg
