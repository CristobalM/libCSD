import CSD.Model.StatCoder
import CSD.Lemmas.BitList

/-! `encodeSymbol` appends exactly the bits of the codeword to the bit stream it builds. -/
namespace CSD.StatCoder
open CSD.ChunkDec (byteBits byteBits_length byteBits_getElem? idxBits idxBits_length idxBits_getD)

/-- The `bits` bits of a right-aligned codeword, most significant first. -/
def cwb (cw bits : Nat) : List Bool := (List.range bits).map fun i => cw.testBit (bits - 1 - i)

theorem cwb_eq (cw bits : Nat) : cwb cw bits = idxBits bits cw := rfl

theorem cwb_length (cw bits : Nat) : (cwb cw bits).length = bits := idxBits_length bits cw

/-- The bit stream written so far: the completed bytes and the first `off` bits of the byte under construction. -/
def written (done : List Nat) (cur off : Nat) : List Bool := done.flatMap byteBits ++ (byteBits cur).take off

/-- The byte under construction holds nothing behind the offset: the C++ ORs into it (`text[bytes] |= code`). -/
def Clean (cur off : Nat) : Prop := ∀ j, off ≤ j → j < 8 → cur.testBit (7 - j) = false

/-- Bit `7 - j` of the piece of the codeword that goes into the current byte. -/
theorem code_testBit (cw bits processed off j : Nat) (hb : bits ≤ 32) (hp : processed < bits) (ho : off < 8) (hj : j < 8) :
    (code cw bits processed off).testBit (7 - j) =
      (decide (off ≤ j) && (decide (processed + (j - off) < bits) && cw.testBit (bits - 1 - (processed + (j - off))))) := by
  rw [code, Nat.testBit_mod_two_pow, Nat.testBit_shiftRight, Nat.testBit_mod_two_pow, Nat.testBit_shiftLeft,
    decide_eq_true (Nat.lt_succ_of_le (Nat.sub_le 7 j)), Bool.true_and]
  by_cases hoj : off ≤ j
  · -- bit `31 - d` of the 32-bit word (`d = j - off`); `omega` is slow on `e1` and `e2`
    obtain ⟨d, rfl⟩ := Nat.exists_eq_add_of_le hoj
    have e : 24 + off + (7 - (off + d)) = 31 - d := Nat.eq_sub_of_add_eq (by omega)
    have hd : d ≤ 31 := Nat.le_trans (Nat.le_add_left d off) (Nat.le_trans (Nat.le_of_lt hj) (by decide))
    have e1 : 32 - bits + processed ≤ 31 - d ↔ processed + d < bits :=
      calc 32 - bits + processed ≤ 31 - d ↔ processed + d + (32 - bits) < 32 := by
            rw [Nat.le_sub_iff_add_le hd, Nat.add_assoc, Nat.add_comm (32 - bits), Nat.lt_succ_iff]
        _ ↔ processed + d < bits := by rw [← Nat.lt_sub_iff_add_lt, Nat.sub_sub_self hb]
    have e2 : 31 - d - (32 - bits + processed) = bits - 1 - (processed + d) :=
      calc 31 - d - (32 - bits + processed) = 32 - 1 - (32 - bits) - (processed + d) := by
            rw [Nat.sub_sub, Nat.add_left_comm, Nat.add_comm d, ← Nat.sub_sub]
        _ = bits - 1 - (processed + d) := by rw [Nat.sub_right_comm 32, Nat.sub_sub_self hb]
    rw [e, Nat.add_sub_cancel_left, decide_eq_true (Nat.lt_succ_of_le (Nat.sub_le 31 d)), decide_eq_true hoj,
      Bool.true_and, Bool.true_and, decide_eq_decide.mpr e1, e2]
  · rw [decide_eq_false hoj, decide_eq_false (by omega : ¬ 24 + off + (7 - j) < 32), Bool.false_and, Bool.false_and]

theorem clean_zero (off : Nat) : Clean 0 off := fun _ _ _ => Nat.zero_testBit _

theorem clean_drop (cur off : Nat) (hc : Clean cur off) : (byteBits cur).drop off = List.replicate (8 - off) false := by
  apply List.ext_getElem?
  intro j
  rw [List.getElem?_drop, List.getElem?_replicate]
  by_cases hj : j < 8 - off
  · have hj' : off + j < 8 := Nat.add_lt_of_lt_sub' hj
    rw [if_pos hj, byteBits_getElem? _ _ hj', hc (off + j) (Nat.le_add_right _ _) hj']
  · rw [if_neg hj, List.getElem?_eq_none]
    rw [byteBits_length]
    exact Nat.sub_le_iff_le_add'.mp (Nat.not_lt.mp hj)

theorem length_take_byteBits (cur off : Nat) (ho : off < 8) : ((byteBits cur).take off).length = off := by
  rw [List.length_take, byteBits_length, Nat.min_eq_left (Nat.le_of_lt ho)]

theorem byteBits_or_code (cw bits processed off cur : Nat) (hb : bits ≤ 32) (hp : processed < bits) (ho : off < 8)
    (hc : Clean cur off) :
    byteBits (cur ||| code cw bits processed off) =
      (byteBits cur).take off ++ ((cwb cw bits).drop processed ++ List.replicate (8 - off) false).take (8 - off) := by
  apply List.ext_getElem?
  intro j
  rw [List.getElem?_append, length_take_byteBits cur off ho]
  by_cases hj : j < 8
  · rw [byteBits_getElem? _ _ hj, Nat.testBit_or, code_testBit cw bits processed off j hb hp ho hj]
    by_cases hoj : off ≤ j
    · rw [if_neg (Nat.not_lt.mpr hoj), getElem?_take_pad, if_pos (Nat.sub_lt_sub_right hoj hj), List.getElem?_drop,
        cwb_eq, idxBits_getD, hc j hoj hj, decide_eq_true hoj, Bool.false_or, Bool.true_and]
    · rw [if_pos (Nat.not_le.mp hoj), List.getElem?_take_of_lt (Nat.not_le.mp hoj), byteBits_getElem? _ _ hj,
        decide_eq_false hoj, Bool.false_and, Bool.or_false]
  · have hj := Nat.not_lt.mp hj
    rw [List.getElem?_eq_none (by rw [byteBits_length]; exact hj),
      if_neg (Nat.not_lt.mpr (Nat.le_trans (Nat.le_of_lt ho) hj)), getElem?_take_pad,
      if_neg (Nat.not_lt.mpr (Nat.sub_le_sub_right hj off))]

/-- The last conjunct is the loop invariant; `pre` is the `done` of `encodeSymbol_spec`. -/
theorem fill_spec (cw bits : Nat) (hb : bits ≤ 32) (pre : List Nat) :
    ∀ (fuel processed off cur : Nat) (done : List Nat), processed ≤ bits → off < 8 → Clean cur off →
      bits - processed + off < 8 * fuel →
    ∃ p' off' cur' done', fill cw bits fuel processed off cur done = some (p', off', cur', done') ∧
      p' ≤ bits ∧ off' < 8 ∧ Clean cur' off' ∧ bits - p' < 8 - off' ∧
      written (pre ++ done') cur' off' ++ (cwb cw bits).drop p' =
        written (pre ++ done) cur off ++ (cwb cw bits).drop processed := by
  intro fuel
  induction fuel with
  | zero => intro _ _ _ _ _ _ _ hf; exact absurd hf (Nat.not_lt_zero _)
  | succ fuel ih =>
    intro processed off cur done hp ho hc hf
    rw [fill]
    by_cases hge : bits - processed ≥ 8 - off
    · have hlt : processed < bits := Nat.lt_of_sub_pos (Nat.lt_of_lt_of_le (Nat.sub_pos_of_lt ho) hge)
      have hf' : bits - processed < 8 * fuel + (8 - off) := by
        rw [← Nat.add_lt_add_iff_right (k := off), Nat.add_assoc, Nat.sub_add_cancel (Nat.le_of_lt ho)]
        exact hf
      have hfuel : bits - (processed + (8 - off)) + 0 < 8 * fuel := by
        rw [Nat.add_zero, Nat.sub_add_eq]
        exact Nat.sub_lt_right_of_lt_add hge hf'
      rw [if_pos hge]
      obtain ⟨p', off', cur', done', hfill, hle, hoff, hclean, hrem, hstream⟩ :=
        ih (processed + (8 - off)) 0 0 (done ++ [cur ||| code cw bits processed off]) (Nat.add_le_of_le_sub' hp hge)
          (by decide) (clean_zero 0) hfuel
      refine ⟨p', off', cur', done', hfill, hle, hoff, hclean, hrem, ?_⟩
      -- the finished byte: the old `off` bits, then the next `8 - off` of the codeword
      rw [hstream, written, written, List.take_zero, List.append_nil, ← List.append_assoc, List.flatMap_append,
        List.flatMap_singleton, byteBits_or_code cw bits processed off cur hb hlt ho hc,
        List.take_append_of_le_length (by rw [List.length_drop, cwb_length]; exact hge), List.append_assoc,
        List.append_assoc, List.append_assoc, ← List.drop_drop, List.take_append_drop]
    · rw [if_neg hge]
      exact ⟨processed, off, cur, done, rfl, hp, ho, hc, Nat.not_le.mp hge, rfl⟩

/-- **`encodeSymbol` appends the `bits` bits of the codeword** to the bit stream written before and leaves the
byte under construction clean. -/
theorem encodeSymbol_spec (cw bits cur off : Nat) (done : List Nat) (hb : bits ≤ 32) (ho : off < 8) (hc : Clean cur off) :
    ∃ bytes cur' off', encodeSymbol cw bits cur off = some (bytes, cur', off') ∧ off' < 8 ∧ Clean cur' off' ∧
      written (done ++ bytes) cur' off' = written done cur off ++ cwb cw bits := by
  obtain ⟨p, off1, cur1, done1, hfill, _, hoff, hclean, hrem, hstream⟩ :=
    fill_spec cw bits hb done 6 0 off cur [] (Nat.zero_le _) ho hc
      (Nat.lt_trans (Nat.add_lt_add_of_le_of_lt hb ho) (by decide))
  rw [List.append_nil, List.drop_zero] at hstream
  rw [encodeSymbol, hfill, ← hstream]
  by_cases hgt : bits > p
  · have hl : ((cwb cw bits).drop p).length = bits - p := by rw [List.length_drop, cwb_length]
    refine ⟨done1, _, _, if_pos hgt, Nat.add_lt_of_lt_sub' hrem, ?_, ?_⟩
    · intro j hj1 hj2
      have hj : ¬ p + (j - off1) < bits := Nat.not_lt.mpr (Nat.sub_le_iff_le_add'.mp (Nat.le_sub_of_add_le' hj1))
      rw [Nat.testBit_or, code_testBit cw bits p off1 j hb hgt hoff hj2,
        hclean j (Nat.le_trans (Nat.le_add_right _ _) hj1) hj2, decide_eq_false hj, Bool.false_and, Bool.and_false,
        Bool.or_false]
    · have hA := length_take_byteBits cur1 off1 hoff
      rw [written, written, byteBits_or_code cw bits p off1 cur1 hb hgt hoff hclean, List.append_assoc,
        List.take_append, hA, Nat.add_sub_cancel_left, List.take_of_length_le (by rw [hA]; exact Nat.le_add_right _ _),
        List.take_take, Nat.min_eq_left (Nat.le_of_lt hrem), List.take_left' hl]
  · exact ⟨done1, cur1, off1, if_neg hgt, hoff, hclean,
      by rw [List.drop_of_length_le (by rw [cwb_length]; exact Nat.not_lt.mp hgt), List.append_nil]⟩

def encBits (cwOf : Nat → Nat × Nat) (w : List Nat) : List Bool := w.flatMap fun s => cwb (cwOf s).1 (cwOf s).2

/-- **`encodeString` writes the codewords one after the other**, most significant bit first, and pads the
last byte with zeros. -/
theorem encodeString_spec (cwOf : Nat → Nat × Nat) (hb : ∀ s, (cwOf s).2 ≤ 32) :
    ∀ (w : List Nat) (cur off : Nat) (done : List Nat), off < 8 → Clean cur off →
    ∃ out, encodeString cwOf w cur off done = some out ∧
      ∃ pad, out.flatMap byteBits = written done cur off ++ encBits cwOf w ++ List.replicate pad false
  | [], cur, off, done, ho, hc => by
    simp only [encodeString, encBits, List.flatMap_nil, List.append_nil]
    by_cases h0 : off > 0
    · rw [if_pos h0]
      refine ⟨_, rfl, 8 - off, ?_⟩
      rw [written, List.flatMap_append, List.flatMap_singleton, List.append_assoc, ← clean_drop cur off hc,
        List.take_append_drop]
    · rw [if_neg h0, Nat.eq_zero_of_not_pos h0]
      exact ⟨_, rfl, 0, by rw [written, List.take_zero, List.replicate_zero, List.append_nil, List.append_nil]⟩
  | s :: w, cur, off, done, ho, hc => by
    simp only [encodeString]
    obtain ⟨bytes, cur', off', h1, h2, h3, h4⟩ := encodeSymbol_spec (cwOf s).1 (cwOf s).2 cur off done (hb s) ho hc
    rw [h1]
    simp only
    obtain ⟨out, ho1, pad, ho2⟩ := encodeString_spec cwOf hb w cur' off' (done ++ bytes) h2 h3
    refine ⟨out, ho1, pad, ?_⟩
    rw [ho2, h4]
    simp only [encBits, List.flatMap_cons, List.append_assoc]

end CSD.StatCoder
