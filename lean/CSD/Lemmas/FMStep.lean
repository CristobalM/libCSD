import CSD.Lemmas.FMRows
import CSD.Lemmas.FMSorted

/-! Counting over a suffix array `L` of `T`: rows are suffixes (`cntq_eq_sufCount`), and `step` is the counting form
of the LF mapping: `#{s : s < [c] ∨ s = c :: t ∧ q t} = #{s : s < [c]} + rank_c(bwt, #{s : q s})` for
downward-closed `q`. -/
namespace CSD.FM

def cntq (L : List Row) (q : List Sym → Bool) : Nat := L.countP (fun r => q r.2)

/-- Rows below the pattern. -/
def lo (L : List Row) (P : List Sym) : Nat := cntq L (ltP P)

/-- Rows starting with the pattern: its occurrences in the text. -/
def occs (L : List Row) (P : List Sym) : Nat := cntq L (preP P)

theorem cntq_hiP (L : List Row) (P : List Sym) : cntq L (hiP P) = lo L P + occs L P :=
  countP_hiP (fun r : Row => r.2) P L

theorem lo_add_occs_le_length (L : List Row) (P : List Sym) : lo L P + occs L P ≤ L.length :=
  countP_ltP_add_preP_le (fun r : Row => r.2) P L

theorem hiP_single (c : Sym) (s : List Sym) : hiP [c] s = ltP [c + 1] s := by
  cases s with
  | nil => rfl
  | cons x t =>
    rw [Bool.eq_iff_iff]
    simp only [hiP, ltP, preP, List.isPrefixOf, List.cons_lt_cons_iff, List.not_lt_nil, and_false, or_false,
      Bool.or_eq_true, Bool.and_eq_true, beq_iff_eq, decide_eq_true_eq, and_true]
    -- `x < c ∨ c = x ↔ x < c + 1`
    rw [Nat.lt_succ_iff, Nat.le_iff_lt_or_eq, eq_comm (a := c)]

def belowOrCons (c : Sym) (q : List Sym → Bool) (s : List Sym) : Bool := ltP [c] s || consP c q s

theorem belowOrCons_ltP (c : Sym) (P s : List Sym) : belowOrCons c (ltP P) s = ltP (c :: P) s := by
  cases s with
  | nil => rfl
  | cons x t =>
    rw [Bool.eq_iff_iff]
    simp [belowOrCons, consP, ltP, List.cons_lt_cons_iff]

theorem belowOrCons_hiP (c : Sym) (P s : List Sym) : belowOrCons c (hiP P) s = hiP (c :: P) s := by
  cases s with
  | nil => rfl
  | cons x t =>
    rw [Bool.eq_iff_iff]
    simp only [belowOrCons, consP, hiP, ltP, preP, List.isPrefixOf, List.cons_lt_cons_iff, List.not_lt_nil, and_false,
      or_false, Bool.or_eq_true, Bool.and_eq_true, beq_iff_eq, decide_eq_true_eq]
    -- `x = c ∧ ·` distributes over the `∨`
    constructor
    · rintro (h | ⟨rfl, h | h⟩)
      · exact Or.inl (Or.inl h)
      · exact Or.inl (Or.inr ⟨rfl, h⟩)
      · exact Or.inr ⟨rfl, h⟩
    · rintro ((h | ⟨rfl, h⟩) | ⟨rfl, h⟩)
      · exact Or.inl h
      · exact Or.inr ⟨rfl, Or.inl h⟩
      · exact Or.inr ⟨rfl, Or.inr h⟩

/-- Fails for `c = 0`: the row of the whole text has `bwt = 0` and no symbol in front. Every `c ≠ 0` downstream
comes from here. -/
theorem bwt_beq (r : Row) {c : Sym} (hc : c ≠ 0) : (r.bwt == c) = (r.1 == some c) := by
  rcases r with ⟨_ | x, s⟩
  · simpa [Row.bwt] using hc.symm
  · simp [Row.bwt]

theorem cntq_congr {L : List Row} {q q' : List Sym → Bool} (h : ∀ s, q s = q' s) : cntq L q = cntq L q' :=
  List.countP_congr fun r _ => by rw [h]

theorem sufCount_ltP_single (c : Sym) : ∀ T : List Sym, sufCount (ltP [c]) T = occOf T c
  | [] => rfl
  | x :: T => by
    rw [sufCount, sufCount_ltP_single c T, occOf, occOf, List.countP_cons]
    simp only [ltP, List.cons_lt_cons_iff, List.not_lt_nil, and_false, or_false, b2n]
    rw [Nat.add_comm, Nat.add_right_comm]

theorem cntq_eq_sufCount {T : List Sym} {L : List Row} (hSA : IsSA T L) (f : List Sym → Bool) :
    cntq L f = sufCount f T := by
  rw [cntq, hSA.1.countP_eq, rows, countP_rowsFrom]

def occurrences (P T : List Sym) : Nat := sufCount (preP P) T

theorem occs_eq_occurrences {T : List Sym} {L : List Row} (hSA : IsSA T L) (P : List Sym) :
    occs L P = occurrences P T :=
  cntq_eq_sufCount hSA (preP P)

theorem lo_getElem {L : List Row} (hs : L.Pairwise (fun a b => a.2 < b.2)) {j : Nat} (hj : j < L.length) :
    lo L L[j].2 = j :=
  sorted_countP_lt (key := fun r : Row => r.2) hs hj

theorem getElem_lo {T : List Sym} {L : List Row} (hSA : IsSA T L) {p : Option Sym} {s : List Sym}
    (h : (p, s) ∈ L) : L[lo L s]? = some (p, s) := by
  obtain ⟨j, hj, e⟩ := List.getElem_of_mem h
  have := lo_getElem hSA.2 hj
  rw [e] at this
  rw [this, List.getElem?_eq_getElem hj, e]

section SA
variable {T : List Sym} {L : List Row} (hSA : IsSA T L)
include hSA

theorem step {c : Sym} (hc : c ≠ 0) {q : List Sym → Bool} (hq : DownClosed q) :
    cntq L (belowOrCons c q) = lo L [c] + cnt (L.map Row.bwt) c (cntq L q) := by
  obtain ⟨hperm, hsort⟩ := hSA
  -- a suffix starting with `c` is not below `[c]`
  have hsplit : cntq L (belowOrCons c q) = lo L [c] + L.countP (fun r => consP c q r.2) :=
    countP_or_disjoint (fun r : Row => ltP [c] r.2) (fun r => consP c q r.2) (by
      rintro ⟨p, _ | ⟨x, t⟩⟩ ⟨h1, h2⟩
      · cases h2
      · simp only [consP, Bool.and_eq_true, beq_iff_eq] at h2
        simp [ltP, h2.1] at h1) L
  rw [hsplit, hperm.countP_eq, count_shift_rows, ← hperm.countP_eq]
  -- those rows are a prefix of `L`; count the ones preceded by `c`
  have hpre : L.countP (precC c q) = (L.filter (fun r => q r.2)).countP (fun r => r.1 == some c) := by
    rw [List.countP_filter]
    rfl
  rw [hpre, filter_eq_take (key := fun r : Row => r.2) hsort hq, cnt, ← List.map_take, List.count_eq_countP,
    List.countP_map]
  congr 1
  exact List.countP_congr fun r _ => by simp only [Function.comp, bwt_beq r hc]

theorem step_lo {c : Sym} (hc : c ≠ 0) (P : List Sym) :
    lo L (c :: P) = lo L [c] + cnt (L.map Row.bwt) c (lo L P) := by
  have := step hSA hc (downClosed_ltP P)
  rwa [cntq_congr (belowOrCons_ltP c P)] at this

theorem step_hi {c : Sym} (hc : c ≠ 0) (P : List Sym) :
    cntq L (hiP (c :: P)) = lo L [c] + cnt (L.map Row.bwt) c (cntq L (hiP P)) := by
  have := step hSA hc (downClosed_hiP P)
  rwa [cntq_congr (belowOrCons_hiP c P)] at this

/-- `occ[c]`. -/
theorem lo_single (c : Sym) : lo L [c] = occOf T c :=
  (cntq_eq_sufCount hSA _).trans (sufCount_ltP_single c T)

theorem lo_pos {P : List Sym} (hP : P ≠ []) : 1 ≤ lo L P := by
  obtain ⟨o, h⟩ := hSA.exists_mem.mpr List.nil_suffix
  obtain ⟨x, t, rfl⟩ := List.exists_cons_of_ne_nil hP
  exact List.countP_pos_iff.mpr ⟨(o, []), h, rfl⟩

theorem occs_pos_iff {P : List Sym} : 0 < occs L P ↔ P <:+: T := by
  rw [occs, cntq, List.countP_pos_iff]
  constructor
  · rintro ⟨⟨o, s⟩, hr, hpre⟩
    obtain ⟨y, rfl⟩ := List.isPrefixOf_iff_prefix.mp hpre
    obtain ⟨A, rfl⟩ := hSA.exists_mem.mp ⟨o, hr⟩
    exact ⟨A, y, by simp⟩
  · rintro ⟨A, y, rfl⟩
    obtain ⟨o, h⟩ := (hSA.exists_mem (s := P ++ y)).mpr ⟨A, by simp⟩
    exact ⟨(o, P ++ y), h, List.isPrefixOf_iff_prefix.mpr (List.prefix_append P y)⟩

theorem occs_eq_zero_of_infix {P Q : List Sym} (h : occs L P = 0) (hPQ : P <:+: Q) : occs L Q = 0 :=
  Nat.eq_zero_of_not_pos fun hpos =>
    Nat.lt_irrefl 0 (h ▸ (occs_pos_iff hSA).mpr (hPQ.trans ((occs_pos_iff hSA).mp hpos)))

theorem occs_eq_zero_of_not_mem_bwt {c : Sym} (hnot : c ∉ L.map Row.bwt) {P : List Sym}
    (hP : c ∈ P) : occs L P = 0 :=
  Nat.eq_zero_of_not_pos fun hpos => hnot <| by
    obtain ⟨A, s, e⟩ := List.append_of_mem (((occs_pos_iff hSA).mp hpos).subset hP)
    exact List.mem_map.mpr ⟨(some c, s), hSA.some_mem.mpr ⟨A, e.symm⟩, rfl⟩

theorem preP_getElem_iff {P : List Sym} {j : Nat} (hj : j < L.length) :
    preP P L[j].2 = true ↔ lo L P ≤ j ∧ j < lo L P + occs L P :=
  sorted_preP_iff (key := fun r : Row => r.2) hSA.2 hj

theorem row_in_block (P : List Sym) {p' : Option Sym} {t : List Sym} (hrow : (p', t) ∈ L)
    (hpre : preP P t = true) : lo L P ≤ lo L t ∧ lo L t < lo L P + occs L P := by
  obtain ⟨hj, he⟩ := List.getElem?_eq_some_iff.mp (getElem_lo hSA hrow)
  exact (preP_getElem_iff hSA hj).mp (he ▸ hpre)

theorem lo_append_of_occs_one {p' : Option Sym} {P y : List Sym} (hrow : (p', P ++ y) ∈ L) (hocc : occs L P = 1) :
    lo L (P ++ y) = lo L P := by
  have ⟨h1, h2⟩ := row_in_block hSA P hrow (List.isPrefixOf_iff_prefix.mpr (List.prefix_append P y))
  rw [hocc] at h2
  exact Nat.le_antisymm (Nat.le_of_lt_add_one h2) h1

end SA

/-- Not used by others: the proofs rest on the sharper `lo_getElem`. -/
theorem nodup_of_sorted {L : List Row} (h : L.Pairwise (fun a b => a.2 < b.2)) : L.Nodup :=
  nodup_of_sorted_key (key := fun r : Row => r.2) h

end CSD.FM
