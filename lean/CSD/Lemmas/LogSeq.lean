import CSD.Model.LogSeq
import CSD.Lemmas.ListIdx

/-! `get_field` / `set_field` of `LogSequence` bit by bit: the shift-and-mask expressions as windows of bits
(`getLsbD_*`; `j < 64` offset in the first word, `w` width), then both routines on the array. `omega` is dear on the
truncated differences of the C++ (`64 - j - w`, `128 - j - w`): each gets a name (`64 = s + (j + w)`, `p = j + q`) and
indices cancel by rewriting. -/
namespace CSD.LogSeq

/-- Bit `k` of the word array (bit 0 = least significant bit of word 0). -/
def bit (d : List Word) (k : Nat) : Bool := ((d[k / 64]?).getD 0).getLsbD (k % 64)

theorem and_congr_of {g g' x y : Bool} (hg : g = g') (h : g' = true → x = y) : (g && x) = (g' && y) := by
  subst hg; cases g <;> simp_all

theorem getLsbD_readOne (a : Word) (j w t : Nat) (h : j + w ≤ 64) :
    ((a <<< (64 - j - w)) >>> (64 - w)).getLsbD t = (decide (t < w) && a.getLsbD (j + t)) := by
  -- the shift counts are `s` and `s + j`
  obtain ⟨s, hs⟩ := Nat.exists_eq_add_of_le' h
  rw [show 64 - j - w = s by rw [hs, Nat.sub_sub, Nat.add_sub_cancel],
    show 64 - w = s + j by rw [hs, ← Nat.add_assoc, Nat.add_sub_cancel],
    BitVec.getLsbD_ushiftRight, BitVec.getLsbD_shiftLeft, Nat.add_assoc, Nat.add_sub_cancel_left,
    decide_eq_false (Nat.not_lt.mpr (Nat.le_add_right s _)), Bool.not_false, Bool.and_true]
  congr 1
  simp only [hs, Nat.add_lt_add_iff_left]

theorem getLsbD_readTwo (a b : Word) (j w t : Nat) (hj : j < 64) (h : 64 < j + w) (hw : w ≤ 64) :
    ((a >>> j) ||| ((b <<< (128 - j - w)) >>> (64 - w))).getLsbD t =
      (decide (t < w) && if j + t < 64 then a.getLsbD (j + t) else b.getLsbD (j + t - 64)) := by
  -- `64 = j + c = s + w`: `a` gives `c < w` bits, the shift counts are `c + s` and `s`
  obtain ⟨c, hc⟩ := Nat.exists_eq_add_of_le (Nat.le_of_lt hj)
  obtain ⟨s, hs⟩ := Nat.exists_eq_add_of_le' hw
  have hcw : c < w := Nat.lt_of_add_lt_add_left (hc ▸ h)
  have e1 : j + t < 64 ↔ t < c := by rw [hc, Nat.add_lt_add_iff_left]
  have e2 : t + s < 64 ↔ t < w := by rw [hs, Nat.add_comm s w, Nat.add_lt_add_iff_right]
  rw [show 64 - w = s by rw [hs, Nat.add_sub_cancel],
    show 128 - j - w = c + s by
      rw [show 128 = j + c + (s + w) by rw [← hs, ← hc], Nat.add_assoc, Nat.add_sub_cancel_left, ← Nat.add_assoc,
        Nat.add_sub_cancel],
    show j + t - 64 = t - c by rw [hc, Nat.add_sub_add_left],
    BitVec.getLsbD_or, BitVec.getLsbD_ushiftRight, BitVec.getLsbD_ushiftRight, BitVec.getLsbD_shiftLeft,
    Nat.add_comm s t, Nat.add_sub_add_right]
  simp only [e1, e2, Nat.add_lt_add_iff_right]
  by_cases h1 : t < c
  · simp [h1, Nat.lt_trans h1 hcw]
  · simp [h1, show 64 ≤ j + t from hc ▸ Nat.add_le_add_left (Nat.le_of_not_lt h1) j]

theorem getLsbD_lowMask (w q : Nat) : (lowMask w).getLsbD q = decide (q < w ∧ q < 64) := by
  unfold lowMask
  rw [BitVec.getLsbD_not, BitVec.getLsbD_shiftLeft, BitVec.getLsbD_allOnes]
  by_cases h : q < 64
  · by_cases h2 : q < w
    · simp [h, h2]
    · simp [h, h2, Nat.lt_of_le_of_lt (Nat.sub_le q w) h]
  · simp [h]

theorem getLsbD_writeLo (a v : Word) (j w p : Nat) (hp : p < 64) (hv : ∀ t, w ≤ t → v.getLsbD t = false) :
    ((a &&& ~~~(lowMask w <<< j)) ||| (v <<< j)).getLsbD p =
      if j ≤ p ∧ p < j + w then v.getLsbD (p - j) else a.getLsbD p := by
  simp only [BitVec.getLsbD_or, BitVec.getLsbD_and, BitVec.getLsbD_not, BitVec.getLsbD_shiftLeft, getLsbD_lowMask,
    hp, decide_true, Bool.true_and]
  rcases Nat.lt_or_ge p j with h1 | h1
  · rw [if_neg fun h => Nat.not_le.mpr h1 h.1]; simp [h1]
  · -- `p = j + q`: what counts is bit `q` of `v` and of the mask
    obtain ⟨q, rfl⟩ := Nat.exists_eq_add_of_le h1
    have hq : q < 64 := Nat.lt_of_le_of_lt (Nat.le_add_left q j) hp
    simp only [Nat.add_sub_cancel_left, Nat.le_add_right, Nat.add_lt_add_iff_left, true_and, hq, and_true,
      Nat.not_lt.mpr (Nat.le_add_right j q), decide_false, Bool.not_false]
    by_cases h2 : q < w
    · simp [h2]
    · simp [h2, hv q (Nat.le_of_not_lt h2)]

/-- Bit `p` of the second word is bit `64 + p` from the start of the first, as in `getLsbD_writeLo`. -/
theorem getLsbD_writeHi (b v : Word) (j w p : Nat) (hj : j < 64) (hp : p < 64)
    (hv : ∀ t, w ≤ t → v.getLsbD t = false) :
    ((b &&& (BitVec.allOnes 64 <<< (w + j - 64))) ||| (v >>> (64 - j))).getLsbD p =
      if j ≤ 64 + p ∧ 64 + p < j + w then v.getLsbD (64 + p - j) else b.getLsbD p := by
  -- brings the mask test to `64 + p < j + w` and the index of `v` to `64 + p - j`
  simp only [BitVec.getLsbD_or, BitVec.getLsbD_and, BitVec.getLsbD_shiftLeft, BitVec.getLsbD_ushiftRight,
    BitVec.getLsbD_allOnes, hp, decide_true, Bool.true_and, Nat.lt_of_le_of_lt (Nat.sub_le p _) hp, Bool.and_true,
    Nat.lt_sub_iff_add_lt, Nat.add_comm p 64, Nat.add_comm w j, ← Nat.sub_add_comm (Nat.le_of_lt hj)]
  by_cases h1 : 64 + p < j + w
  · simp [h1, Nat.le_trans (Nat.le_of_lt hj) (Nat.le_add_right 64 p)]
  · simp [h1, hv (64 + p - j) (Nat.le_sub_of_add_le' (Nat.le_of_not_lt h1))]

/-! Bit positions of the array are written `64 * i + p` with `p < 64`, so that `/ 64` and `% 64` compute. -/

theorem exists_word (P : Nat) : ∃ i j, j < 64 ∧ P = 64 * i + j := ListIdx.exists_div_mod 64 (by decide) P

theorem word_div (i : Nat) {p : Nat} (hp : p < 64) : (64 * i + p) / 64 = i := by
  rw [Nat.mul_add_div (by decide), Nat.div_eq_of_lt hp, Nat.add_zero]

theorem word_mod (i : Nat) {p : Nat} (hp : p < 64) : (64 * i + p) % 64 = p := by
  rw [Nat.mul_add_mod, Nat.mod_eq_of_lt hp]

theorem bit_word (d : List Word) (i : Nat) {p : Nat} (hp : p < 64) : bit d (64 * i + p) = ((d[i]?).getD 0).getLsbD p := by
  rw [bit, word_div i hp, word_mod i hp]

theorem bit_set (d : List Word) (i : Nat) (x : Word) (hi : i < d.length) (i' : Nat) {p : Nat} (hp : p < 64) :
    bit (d.set i x) (64 * i' + p) = if i' = i then x.getLsbD p else bit d (64 * i' + p) := by
  rw [bit_word _ _ hp, bit_word _ _ hp, List.getElem?_set]
  by_cases h : i = i'
  · subst h; simp [hi]
  · simp [h, Ne.symm h]

theorem bit_next (d : List Word) (i : Nat) {q : Nat} (h1 : 64 ≤ q) (h2 : q < 128) :
    bit d (64 * i + q) = ((d[i + 1]?).getD 0).getLsbD (q - 64) := by
  obtain ⟨p, rfl⟩ := Nat.exists_eq_add_of_le h1
  rw [← Nat.add_assoc, ← Nat.mul_succ, bit_word d _ (Nat.lt_of_add_lt_add_left h2), Nat.add_sub_cancel_left]

theorem word_lt {i m q n : Nat} (hq : 64 * m < q) (h : 64 * i + q ≤ 64 * n) : i + m < n := by
  apply Nat.lt_of_mul_lt_mul_left (a := 64)
  rw [Nat.mul_add]
  exact Nat.lt_of_lt_of_le (Nat.add_lt_add_left hq _) h

/-- Only word `i`, and word `i + 1` if the field straddles, hold bits of the field. -/
theorem not_in_field {i j w i' p : Nat} (hp : p < 64) (hw : j + w ≤ 128) (h0 : i' ≠ i) (h1 : i' = i + 1 → j + w ≤ 64) :
    ¬(64 * i + j ≤ 64 * i' + p ∧ 64 * i' + p < 64 * i + j + w) := by
  omega

theorem getField_spec (d : List Word) (w idx : Nat) (hw1 : 1 ≤ w) (hw : w ≤ 64)
    (hb : idx * w + w ≤ 64 * d.length) :
    ∃ r, getField d w idx = some r ∧ ∀ t, r.getLsbD t = (decide (t < w) && bit d (idx * w + t)) := by
  unfold getField
  generalize idx * w = P at hb ⊢
  obtain ⟨i, j, hj, rfl⟩ := exists_word P
  simp only [word_div i hj, word_mod i hj]
  rw [Nat.add_assoc] at hb
  have hi : i < d.length := word_lt (m := 0) (Nat.add_pos_right j hw1) hb
  have ha : d[i]? = some d[i] := List.getElem?_eq_getElem hi
  by_cases h : j + w ≤ 64
  · rw [if_pos h, ha]
    refine ⟨_, rfl, fun t => ?_⟩
    rw [getLsbD_readOne _ _ _ _ h]
    refine and_congr_of rfl fun ht => ?_
    rw [Nat.add_assoc, bit_word d i (Nat.lt_of_lt_of_le (Nat.add_lt_add_left (of_decide_eq_true ht) j) h), ha]; rfl
  · have hi2 : i + 1 < d.length := word_lt (m := 1) (Nat.lt_of_not_le h) hb
    have hb2 : d[i + 1]? = some d[i + 1] := List.getElem?_eq_getElem hi2
    rw [if_neg h, ha, hb2]
    refine ⟨_, rfl, fun t => ?_⟩
    rw [getLsbD_readTwo _ _ _ _ _ hj (Nat.lt_of_not_le h) hw]
    refine and_congr_of rfl fun ht => ?_
    rw [Nat.add_assoc]
    by_cases h1 : j + t < 64
    · rw [if_pos h1, bit_word d i h1, ha]; rfl
    · rw [if_neg h1, bit_next d i (Nat.le_of_not_lt h1)
        (Nat.add_lt_add hj (Nat.lt_of_lt_of_le (of_decide_eq_true ht) hw)), hb2]; rfl

theorem setField_spec (d : List Word) (w idx : Nat) (v : Word) (hw1 : 1 ≤ w) (hw : w ≤ 64)
    (hb : idx * w + w ≤ 64 * d.length) (hv : ∀ t, w ≤ t → v.getLsbD t = false) :
    ∃ d', setField d w idx v = some d' ∧ d'.length = d.length ∧
      ∀ k, bit d' k = if idx * w ≤ k ∧ k < idx * w + w then v.getLsbD (k - idx * w) else bit d k := by
  unfold setField
  generalize idx * w = P at hb ⊢
  obtain ⟨i, j, hj, rfl⟩ := exists_word P
  simp only [word_div i hj, word_mod i hj]
  rw [Nat.add_assoc] at hb
  have hi : i < d.length := word_lt (m := 0) (Nat.add_pos_right j hw1) hb
  have ha : d[i]? = some d[i] := List.getElem?_eq_getElem hi
  have hjw : j + w ≤ 128 := Nat.add_le_add (Nat.le_of_lt hj) hw
  have fld (q : Nat) : (64 * i + j ≤ 64 * i + q ∧ 64 * i + q < 64 * i + j + w) ↔ (j ≤ q ∧ q < j + w) := by
    rw [Nat.add_le_add_iff_left, Nat.add_assoc, Nat.add_lt_add_iff_left]
  have lo (i' p : Nat) (hp : p < 64) (h1 : i' = i + 1 → j + w ≤ 64) :
      bit (d.set i ((d[i] &&& ~~~(lowMask w <<< j)) ||| v <<< j)) (64 * i' + p) =
        if 64 * i + j ≤ 64 * i' + p ∧ 64 * i' + p < 64 * i + j + w then v.getLsbD (64 * i' + p - (64 * i + j))
        else bit d (64 * i' + p) := by
    rw [bit_set _ _ _ hi _ hp]
    by_cases e : i' = i
    · subst e
      rw [if_pos rfl, getLsbD_writeLo _ _ _ _ _ hp hv, bit_word _ _ hp, ha]
      simp only [fld, Nat.add_sub_add_left, Option.getD_some]
    · rw [if_neg e, if_neg (not_in_field hp hjw e h1)]
  rw [ha]
  simp only
  by_cases h : j + w > 64
  · have hi2 : i + 1 < d.length := word_lt (m := 1) h hb
    have hb2 : d[i + 1]? = some d[i + 1] := List.getElem?_eq_getElem hi2
    rw [if_pos h, List.getElem?_set_ne (Nat.ne_of_lt (Nat.lt_succ_self i)), hb2]
    refine ⟨_, rfl, by simp only [List.length_set], fun k => ?_⟩
    obtain ⟨i', p, hp, rfl⟩ := exists_word k
    rw [bit_set _ _ _ (by rw [List.length_set]; exact hi2) _ hp]
    by_cases e : i' = i + 1
    · subst e
      rw [if_pos rfl, getLsbD_writeHi _ _ _ _ _ hj hp hv, bit_word _ _ hp, hb2, Nat.mul_succ,
        Nat.add_assoc (64 * i) 64 p]
      simp only [fld, Nat.add_sub_add_left, Option.getD_some]
    · rw [if_neg e]
      exact lo i' p hp fun e' => absurd e' e
  · rw [if_neg h]
    refine ⟨_, rfl, by simp only [List.length_set], fun k => ?_⟩
    obtain ⟨i', p, hp, rfl⟩ := exists_word k
    exact lo i' p hp fun _ => Nat.le_of_not_lt h

theorem fields_disjoint (w i j : Nat) (h : i ≠ j) (t : Nat) (ht : t < w) :
    ¬ (i * w ≤ j * w + t ∧ j * w + t < i * w + w) := by
  rcases Nat.lt_or_gt_of_ne h with hij | hij
  · have : i * w + w ≤ j * w := Nat.succ_mul i w ▸ Nat.mul_le_mul_right w hij
    exact fun ⟨_, h2⟩ => Nat.not_le.mpr h2 (Nat.le_trans this (Nat.le_add_right _ _))
  · have : j * w + w ≤ i * w := Nat.succ_mul j w ▸ Nat.mul_le_mul_right w hij
    exact fun ⟨h1, _⟩ => Nat.not_le.mpr (Nat.lt_of_lt_of_le (Nat.add_lt_add_left ht _) this) h1

theorem get_set_same (d d' : List Word) (w idx : Nat) (v : Word) (hw1 : 1 ≤ w) (hw : w ≤ 64)
    (hb : idx * w + w ≤ 64 * d.length) (hv : ∀ t, w ≤ t → v.getLsbD t = false)
    (hs : setField d w idx v = some d') : getField d' w idx = some v := by
  obtain ⟨d'', hs', hlen, hbits⟩ := setField_spec d w idx v hw1 hw hb hv
  rw [hs] at hs'; cases hs'
  obtain ⟨r, hr, hrb⟩ := getField_spec d' w idx hw1 hw (by rw [hlen]; exact hb)
  rw [hr]; congr 1
  apply BitVec.eq_of_getLsbD_eq
  intro t _
  rw [hrb t, hbits]
  by_cases ht : t < w
  · simp [ht, Nat.add_lt_add_left ht]
  · simp [ht, hv t (Nat.le_of_not_lt ht)]

theorem get_set_other (d d' : List Word) (w idx j : Nat) (v : Word) (hw1 : 1 ≤ w) (hw : w ≤ 64)
    (hb : idx * w + w ≤ 64 * d.length) (hbj : j * w + w ≤ 64 * d.length)
    (hv : ∀ t, w ≤ t → v.getLsbD t = false) (hne : idx ≠ j)
    (hs : setField d w idx v = some d') : getField d' w j = getField d w j := by
  obtain ⟨d'', hs', hlen, hbits⟩ := setField_spec d w idx v hw1 hw hb hv
  rw [hs] at hs'; cases hs'
  obtain ⟨r, hr, hrb⟩ := getField_spec d' w j hw1 hw (by rw [hlen]; exact hbj)
  obtain ⟨r0, hr0, hrb0⟩ := getField_spec d w j hw1 hw hbj
  rw [hr, hr0]; congr 1
  apply BitVec.eq_of_getLsbD_eq
  intro t _
  rw [hrb t, hrb0 t]
  by_cases ht : t < w
  · rw [hbits, if_neg (fields_disjoint w idx j hne t ht)]
  · simp [ht]

theorem numWords_enough (w n idx : Nat) (h : idx < n) : idx * w + w ≤ 64 * numWords w n := by
  have h1 : idx * w + w ≤ w * n := Nat.succ_mul idx w ▸ Nat.mul_comm n w ▸ Nat.mul_le_mul_right w h
  -- `numWords w n` is `(w * n + 63) / 64`
  have h2 : w * n + 63 < 64 * numWords w n + 1 + 63 := Nat.lt_mul_div_succ (w * n + 63) (b := 64) (by decide)
  exact Nat.le_trans h1 (Nat.le_of_lt_succ (Nat.lt_of_add_lt_add_right h2))

end CSD.LogSeq
