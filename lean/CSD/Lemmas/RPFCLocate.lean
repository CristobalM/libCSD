import CSD.Lemmas.RPFCStores
import CSD.Lemmas.PFCLocate

/-! `StringDictionaryRPFC::locate` is `Spec.locate`. The binary search reads the same plain headers as the plain
dictionary and has its specification (`bucketSearch_spec`); the in-bucket scan is a simpler loop (every string is
decoded in full, the comparison resumes at the shared length) with its own proof. -/
namespace CSD.RPFC
open CSD.PFC

theorem locateBucketLoop_eq (d : D) (q : Str) (fuel l r c : Nat) (v : Int) :
    locateBucketLoop d q fuel l r c v =
      (Search.first (fun k => (header d k).map (scmp · q)) fuel l r c v).map bucketRes := by
  induction fuel generalizing l r c v with
  | zero => rfl
  | succ fuel ih =>
    unfold locateBucketLoop Search.first
    by_cases hle : l ≤ r
    · rw [if_pos hle, if_pos hle]
      dsimp only
      cases header d ((l + r) / 2) with
      | none => rfl
      | some x =>
        simp only [ih, Option.map_some, apply_ite (Option.map bucketRes)]
        rfl
    · rw [if_neg hle, if_neg hle]
      rfl

theorem locateBucketLoop_spec {S : List Str} {d : D} (hst : Stores S d) (q : Str)
    (hS : ∀ s ∈ S, nulFree s) (hq : nulFree q) (hsort : SortedLt S) :
    ∀ (fuel left right center : Nat) (cmp : Int),
      1 ≤ left → (right = 0 ∨ (right - 1) * d.bucketsize < S.length) → left ≤ right + 1 → right + 1 - left ≤ fuel →
      (∀ j, 1 ≤ j → j < left → ∀ h, S[(j - 1) * d.bucketsize]? = some h → scmp h q < 0) →
      (∀ j, right < j → ∀ h, S[(j - 1) * d.bucketsize]? = some h → scmp h q > 0) →
      (right < left → (if cmp < 0 then center else center - 1) = right) →
      ∃ res, locateBucketLoop d q fuel left right center cmp = some res ∧ GoodBucket d.bucketsize S q res := by
  intro fuel left right center cmp h1 hr hlr hfuel hlo hhi hcons
  rw [← clamp_of_ge2 hst.b2] at hr hlo hhi
  rw [locateBucketLoop_eq]
  refine bucketSearch_spec d.bucketsize S q hS hq hsort (fun k h1 h2 => ?_) fuel left right center cmp
    h1 hr hlr hfuel hlo hhi hcons
  obtain ⟨_, _, _, h, _⟩ := bucket_hd hst h1 (buckets_eq_build hst ▸ h2)
  rw [h]; rfl

theorem locateBucket_stores {S : List Str} {d : D} (hst : Stores S d) (q : Str)
    (hS : ∀ s ∈ S, nulFree s) (hq : nulFree q) (hsort : SortedLt S) :
    ∃ res, locateBucket d q = some res ∧ GoodBucket d.bucketsize S q res := by
  have hcl := clamp_of_ge2 hst.b2
  have hbk := buckets_eq_build hst
  refine locateBucketLoop_spec hst q hS hq hsort (d.buckets + 1) 1 d.buckets 0 0 (Nat.le_refl 1)
    ((Nat.eq_zero_or_pos d.buckets).imp id fun h => ?_) (Nat.le_add_left 1 _) (Nat.sub_le _ _)
    (fun _ h1 h2 => absurd h1 (Nat.not_le.mpr h2)) (fun j hj x hx => ?_)
    (fun h => (if_neg (Int.lt_irrefl 0)).trans (Nat.lt_one_iff.mp h).symm)
  · have := bucket_idx_lt d.bucketsize S _ h (Nat.le_of_eq hbk)
    rwa [hcl] at this
  · rw [← hcl] at hx
    exact absurd ((getElem?_hd d.bucketsize S (Nat.zero_lt_of_lt hj)).mp hx).1 (Nat.not_le.mpr (hbk ▸ hj))

/-- `decoded` may be on either side of the query. -/
theorem scanLoop_foundAt (d : D) (q : Str) (L : List Str) (decoded : Str) (i fuel scanneable : Nat) (σ : List Nat)
    (hst : StoresTail d.g d.maxchar decoded L σ) (hok : ChainOK d.maxchar decoded L) (hch : chain decoded L)
    (heq : ∀ s ∈ L, scmp s q = 0 → s = q) (hsc : scanneable = i + L.length) :
    scanLoop d q fuel i scanneable σ decoded (lcp decoded q) = some (foundAt q i (L.take fuel)) := by
  induction fuel generalizing L decoded i σ with
  | zero => rfl
  | succ fuel ih =>
    cases L with
    | nil => rw [scanLoop, if_neg (by rw [hsc]; exact Nat.lt_irrefl i)]; rfl
    | cons c L =>
      obtain ⟨τ, hdec, htail, hok'⟩ := decodeString_storesTail d hst hok
      have hi : i < scanneable := by rw [hsc]; exact Nat.lt_add_of_pos_right (Nat.succ_pos _)
      have hlt : scmp q c < 0 → foundAt q i (c :: L.take fuel) = 0 := fun h =>
        foundAt_of_not_mem (fun hm => not_mem_of_lt_chain h hch.2 (List.mem_of_mem_take (i := fuel + 1) hm)) i
      simp only [scanLoop, hi, ↓reduceIte, hdec, List.take_succ_cons]
      by_cases hsh : lcp decoded c < lcp decoded q
      · -- `c` shares less with its predecessor than the query does: it is beyond the query
        rw [if_pos hsh, hlt (gt_of_lcp_lt decoded c q hsh hch.1)]
      · have hk : lcp decoded q ≤ lcp c q :=
          Nat.le_trans (Nat.le_min.mpr ⟨Nat.le_of_not_lt hsh, Nat.le_refl _⟩) (lcp_trans_ge decoded c q)
        rw [if_neg hsh, cmpFrom_of_le hk]
        simp only
        by_cases h0 : scmp c q = 0
        · rw [if_pos h0, heq c (List.mem_cons_self) h0, foundAt_cons_self]
        · rw [if_neg h0]
          by_cases hpos : scmp c q > 0
          · rw [if_pos hpos, hlt ((scmp_lt_iff_gt q c).mpr hpos)]
          · rw [if_neg hpos, foundAt_cons_ne fun e : c = q => h0 (by rw [e, scmp_self])]
            exact ih L c (i + 1) τ htail hok' hch.2 (fun s hs => heq s (List.mem_cons_of_mem _ hs))
              (hsc.trans (Nat.add_right_comm i L.length 1))

/-- **The scan loop is exact**: the in-bucket index of the query among the strings behind `decoded`, 0 if it is not
there. The sign hypothesis is idle; like `scanLoop_gt`, not used by others (`locate` rests on `scanLoop_foundAt`). -/
theorem scanLoop_spec (d : D) (q : Str) (hq : nulFree q) :
    ∀ (L : List Str) (decoded : Str) (i fuel scanneable : Nat) (σ : List Nat),
      StoresTail d.g d.maxchar decoded L σ → ChainOK d.maxchar decoded L → chain decoded L →
      (∀ s ∈ L, nulFree s) → scanneable = i + L.length → L.length ≤ fuel → scmp decoded q < 0 →
      scanLoop d q fuel i scanneable σ decoded (lcp decoded q) = some (foundAt q i L) := by
  intro L decoded i fuel scanneable σ hst hok hch hnf hsc hfuel _
  rw [scanLoop_foundAt d q L decoded i fuel scanneable σ hst hok hch
    (fun s hs => (scmp_eq_zero (hnf s hs) hq).mp) hsc, List.take_of_length_le hfuel]

theorem scanLoop_gt (d : D) (q : Str) :
    ∀ (L : List Str) (decoded : Str) (i fuel scanneable : Nat) (σ : List Nat),
      StoresTail d.g d.maxchar decoded L σ → ChainOK d.maxchar decoded L → chain decoded L →
      scanneable = i + L.length → scmp decoded q > 0 →
      scanLoop d q fuel i scanneable σ decoded (lcp decoded q) = some 0 := by
  intro L decoded i fuel scanneable σ hst hok hch hsc hdq
  have hgt : ∀ s ∈ L, scmp q s < 0 := fun s hs =>
    scmp_trans_lt ((scmp_lt_iff_gt q decoded).mpr hdq) (chain_all_gt hch s hs)
  rw [scanLoop_foundAt d q L decoded i fuel scanneable σ hst hok hch
    (fun s hs h0 => absurd h0 (Int.ne_of_gt ((scmp_lt_iff_gt q s).mp (hgt s hs)))) hsc,
    foundAt_of_not_mem fun h => not_mem_of_all_gt hgt (List.mem_of_mem_take h)]

/-- The empty dictionary included. -/
theorem locate_stores_any {S : List Str} {d : D} (hst : Stores S d) (q : Str)
    (hS : ∀ s ∈ S, nulFree s) (hq : nulFree q) (hsort : SortedLt S) :
    locate d q = some (Spec.locate S q) := by
  have hcl := clamp_of_ge2 hst.b2
  obtain ⟨res, hres, hgood⟩ := locateBucket_stores hst q hS hq hsort
  rw [locate, hres]
  cases res with
  | header k => simp only [goodBucket_header hsort hgood, hcl]
  | candidate k =>
    cases k with
    | zero => rw [goodBucket_zero hsort hgood]; rfl
    | succ k =>
      have hk1 : 1 ≤ k + 1 := Nat.succ_pos k
      obtain ⟨hk2, hspec⟩ := goodBucket_candidate hsort hk1 hgood
      obtain ⟨L, σ, hchunk, hhdr, hstr, hstores, hchainok, hscan⟩ := bucket_hd hst hk1 (buckets_eq_build hst ▸ hk2)
      have hsorted : SortedLt (hd d.bucketsize S (k + 1) :: L) := hchunk ▸ sortedLt_chunk hsort _ _
      have hnf : ∀ s ∈ L, nulFree s := fun s hs =>
        hS s (List.mem_of_mem_drop (List.mem_of_mem_take (hchunk ▸ List.mem_cons_of_mem _ hs)))
      rw [hspec L (hcl.symm ▸ hchunk)]
      simp only [hhdr, hstr, hscan, hcl, Nat.add_sub_cancel]
      cases L with
      | nil => rfl
      | cons c L' =>
        obtain ⟨τ, hdec, htail, hok'⟩ := decodeString_storesTail d hstores hchainok
        have hgt1 : 1 + (c :: L').length > 1 := Nat.lt_add_of_pos_right (Nat.succ_pos _)
        simp only [hgt1, ↓reduceIte, hdec, cmpFrom_zero]
        by_cases h0 : scmp c q = 0
        · rw [if_neg (not_not_intro h0), (scmp_eq_zero (hnf c List.mem_cons_self) hq).mp h0, foundAt_cons_self]
        · have hsc : 1 + (c :: L').length = 2 + L'.length := (Nat.succ_add_eq_add_succ 1 _).symm
          have hfuel : L'.length ≤ 1 + (c :: L').length := Nat.le_trans (Nat.le_succ _) (Nat.le_add_left _ 1)
          have hloop : scanLoop d q (1 + (c :: L').length) 2 (1 + (c :: L').length) τ c (lcp c q) =
              some (foundAt q 2 L') := by
            rw [scanLoop_foundAt d q L' c 2 _ _ τ htail hok' (chain_of_sorted _ _ hsorted).2
              (fun s hs => (scmp_eq_zero (hnf s (List.mem_cons_of_mem _ hs)) hq).mp) hsc, List.take_of_length_le hfuel]
          have hspec' : foundAt q (k * d.bucketsize + 1) (c :: L') =
              if foundAt q 2 L' = 0 then 0 else k * d.bucketsize + foundAt q 2 L' := by
            rw [foundAt_cons_ne (fun e : c = q => h0 (by rw [e, scmp_self])), Nat.add_assoc, foundAt_add]
          rw [if_pos h0, hloop, hspec']
          cases foundAt q 2 L' <;> simp

/-- **`StringDictionaryRPFC::locate` is exact**: the rank of a member, 0 (`NORESULT`) for every other NUL-free query.
`hne` is idle. -/
theorem locate_stores {S : List Str} {d : D} (hst : Stores S d) (q : Str) (hne : S ≠ [])
    (hS : ∀ s ∈ S, nulFree s) (hq : nulFree q) (hsort : SortedLt S) :
    locate d q = some (Spec.locate S q) :=
  locate_stores_any hst q hS hq hsort

end CSD.RPFC
