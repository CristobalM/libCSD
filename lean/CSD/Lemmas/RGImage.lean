import CSD.Model.RGImage
import CSD.Lemmas.LogSeqIO
import CSD.Lemmas.RG

/-! `BitSequenceRG::save` / `load` on bytes; the constructor builds well-formed objects. -/
namespace CSD.RG
open CSD.LogSeq (leBytes_length fromLE_leBytes readLE_leBytes take_leBytes drop_leBytes)

theorem le32s_length (l : List Nat) : (le32s l).length = 4 * l.length :=
  ListIdx.length_flatMap_const (fun w => leBytes_length w 4) l

theorem le32s_not_short {l : List Nat} {k : Nat} (hk : l.length = k) (rest : List UInt8) :
    ¬ (le32s l ++ rest).length < 4 * k := by
  rw [List.length_append, le32s_length, hk]; exact Nat.not_lt.mpr (Nat.le_add_right _ _)

theorem drop_le32s {l : List Nat} {k : Nat} (hk : l.length = k) (rest : List UInt8) :
    (le32s l ++ rest).drop (4 * k) = rest := by
  rw [← hk, ← le32s_length, List.drop_left]

theorem words32_le32s {l : List Nat} {k : Nat} (hk : l.length = k) (hw : ∀ w ∈ l, w < 2 ^ 32) (rest : List UInt8) :
    words32 k (le32s l ++ rest) = l := by
  subst hk
  induction l with
  | nil => rfl
  | cons a l ih =>
    rw [List.length_cons, words32, le32s, List.flatMap_cons, List.append_assoc, take_leBytes, drop_leBytes,
      fromLE_leBytes 4 a (hw a List.mem_cons_self), ← le32s, ih fun w h => hw w (List.mem_cons_of_mem a h)]

/-- A saved object: sizes fit their fields and the arrays have the lengths `load` recomputes. -/
structure WF (d : Img) : Prop where
  n_lt : d.n < 2 ^ 64
  f_pos : 0 < d.factor
  f_lt : d.factor < 2 ^ 64
  data_len : d.data.length = d.n / W + 1
  rs_len : d.Rs.length = d.n / (W * d.factor) + 1
  data_w : ∀ w ∈ d.data, w < 2 ^ 32
  rs_w : ∀ w ∈ d.Rs, w < 2 ^ 32

theorem integers_eq (n : Nat) : (n + 1) / W + (if (n + 1) % W ≠ 0 then 1 else 0) = n / W + 1 := by
  -- `(n + 1) / W` is `n / W`, plus one exactly when `W` divides `n + 1`: one of the two corrections applies
  rw [Nat.succ_div, Nat.add_assoc]
  by_cases h : W ∣ n + 1
  · rw [if_pos h, if_neg (Decidable.not_not.mpr (Nat.mod_eq_zero_of_dvd h))]
  · rw [if_neg h, if_pos fun h0 => h (Nat.dvd_of_mod_eq_zero h0)]

/-- `BitSequenceRG::load` reads back the object `save` wrote, if well-formed, and stops where the image ends. -/
theorem loadImg_saveImg (d : Img) (wf : WF d) (rest : List UInt8) : loadImg (saveImg d ++ rest) = some (d, rest) := by
  simp only [loadImg, saveImg, List.append_assoc, readLE_leBytes 4 (show HDR < _ by decide), readLE_leBytes 8 wf.n_lt,
    readLE_leBytes 8 wf.f_lt, Nat.ne_of_gt wf.f_pos, integers_eq, le32s_not_short wf.data_len,
    words32_le32s wf.data_len wf.data_w, drop_le32s wf.data_len, le32s_not_short wf.rs_len,
    words32_le32s wf.rs_len wf.rs_w, drop_le32s wf.rs_len, ne_eq, not_true_eq_false, ↓reduceIte]

theorem build_wf (words : List Nat) (n factor : Nat) (hn : n + 64 < 2 ^ 32) (hf : 0 < factor) (hf2 : factor < 2 ^ 64)
    (hw : ∀ w ∈ words, w < 2 ^ 32) : WF (build words n factor) where
  n_lt := Nat.lt_trans (Nat.lt_of_le_of_lt (Nat.le_add_right n 64) hn) (by decide)
  f_pos := hf
  f_lt := hf2
  data_len := by
    rw [build, List.length_append, List.length_take, List.length_replicate, Nat.add_comm, Nat.sub_add_min_cancel]
  rs_len := by simp [build]
  data_w := by
    intro w hw'
    simp only [build, List.mem_append, List.mem_replicate] at hw'
    rcases hw' with h | ⟨_, h⟩
    · exact hw w (List.mem_of_mem_take h)
    · subst h; decide
  rs_w := by
    intro w hw'
    simp only [build, List.mem_map, List.mem_range] at hw'
    obtain ⟨j, _, rfl⟩ := hw'
    -- the counters count among `32 * (n / 32 + 1) ≤ n + 32` bits
    exact Nat.lt_of_le_of_lt (Nat.le_trans (Rs_le _ factor j) (Nat.mul_le_mul_left 32 (List.length_take_le _ _)))
      (Nat.lt_of_le_of_lt (Nat.add_le_add_right (Nat.mul_div_le n 32) 32)
        (Nat.lt_trans (Nat.add_lt_add_left (by decide) n) hn))

/-- **What the constructor builds reloads**: every bit vector of fewer than `2^32 − 64` bits in 32-bit words, every
sampling factor ≥ 1. -/
theorem build_reloads (words : List Nat) (n factor : Nat) (hn : n + 64 < 2 ^ 32) (hf : 0 < factor) (hf2 : factor < 2 ^ 64)
    (hw : ∀ w ∈ words, w < 2 ^ 32) (rest : List UInt8) :
    loadImg (saveImg (build words n factor) ++ rest) = some (build words n factor, rest) :=
  loadImg_saveImg _ (build_wf words n factor hn hf hf2 hw) rest

end CSD.RG
