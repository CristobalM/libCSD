import CSD.Lemmas.FMStep

/-! The text `\1 s₁ \1 … sₙ \1 \0` of a dictionary.  A predicate false on every suffix that starts with an ordinary
byte sees only `[]`, `[0]`, `[1, 0]` and the separator suffixes `\1 sᵢ \1 …`; if there it depends on `sᵢ` alone,
counting rows is counting members (`cntq_mkText`). -/
namespace CSD.FM

/-- Ordinary bytes: neither the terminator 0 nor the separator 1. -/
def Ge2 (l : List Sym) : Prop := ∀ x ∈ l, 2 ≤ x

theorem Ge2.tail {x : Sym} {l : List Sym} (h : Ge2 (x :: l)) : Ge2 l := fun y hy => h y (List.mem_cons_of_mem _ hy)
theorem Ge2.head {x : Sym} {l : List Sym} (h : Ge2 (x :: l)) : 2 ≤ x := h x List.mem_cons_self

theorem count_one_ge2 {l : List Sym} (h : Ge2 l) : l.count 1 = 0 :=
  List.count_eq_zero.mpr fun hm => absurd (h 1 hm) (by omega)

def ValidS (S : List Str) : Prop := ∀ s ∈ S, Ge2 (symsOf s)

/-- False on suffixes starting with an ordinary byte. -/
def Kills (f : List Sym → Bool) : Prop := ∀ x t, 2 ≤ x → f (x :: t) = false

theorem sufCount_append {f : List Sym → Bool} (hk : Kills f) : ∀ (a R : List Sym), Ge2 a →
    sufCount f (a ++ 1 :: R) = sufCount f (1 :: R)
  | [], R, _ => rfl
  | x :: a, R, ha => by
    rw [List.cons_append, sufCount, hk x _ ha.head, sufCount_append hk a R ha.tail]
    exact Nat.zero_add _

theorem sufCount_mkText {f : List Sym → Bool} (hk : Kills f) {g : Str → Bool}
    (hg : ∀ s, Ge2 (symsOf s) → ∀ R, f (1 :: symsOf s ++ 1 :: R) = g s) : ∀ (S : List Str), ValidS S →
    sufCount f (mkText S) = S.countP g + sufCount f [1, 0]
  | [], _ => (Nat.zero_add _).symm
  | s :: rest, hVS => by
    have ih := sufCount_mkText hk hg rest (fun t ht => hVS t (List.mem_cons_of_mem _ ht))
    have hs : Ge2 (symsOf s) := hVS s List.mem_cons_self
    rw [mkText] at ih ⊢
    rw [body, sufCount, ← List.cons_append, hg s hs, sufCount_append hk _ _ hs, ih, List.countP_cons]
    show b2n (g s) + (rest.countP g + sufCount f [1, 0]) = rest.countP g + b2n (g s) + sufCount f [1, 0]
    rw [Nat.add_left_comm, Nat.add_assoc]

theorem cntq_mkText {L : List Row} {S : List Str} (hSA : IsSA (mkText S) L) (hVS : ValidS S)
    {f : List Sym → Bool} (hk : Kills f) {g : Str → Bool}
    (hg : ∀ s, Ge2 (symsOf s) → ∀ R, f (1 :: symsOf s ++ 1 :: R) = g s) :
    cntq L f = S.countP g + b2n (f [1, 0]) + b2n (f [0]) + b2n (f []) := by
  rw [cntq_eq_sufCount hSA f, sufCount_mkText hk hg S hVS, Nat.add_assoc, Nat.add_assoc]
  rfl

theorem kills_ltP_sep (X : List Sym) : Kills (ltP (1 :: X)) := fun x t hx => by
  simp only [ltP, List.cons_lt_cons_iff, decide_eq_false_iff_not]
  omega

theorem kills_preP_sep (X : List Sym) : Kills (preP (1 :: X)) := fun x t hx => by
  simp only [preP, List.isPrefixOf, Bool.and_eq_false_imp, beq_iff_eq]
  omega

/-- `Y` is `[]` (for `\1 p`) or `[1]` (for `\1 q \1`): no `1 :: R` is below it. -/
theorem sep_lt_iff (Y : List Sym) (hY : ∀ R, ¬ 1 :: R < Y) (a : List Sym) : ∀ (q R : List Sym), Ge2 a → Ge2 q →
    (a ++ 1 :: R < q ++ Y ↔ a < q) := by
  induction a with
  | nil =>
    rintro (_ | ⟨y, q⟩) R _ hq
    · exact iff_of_false (hY R) (List.lt_irrefl _)
    · exact iff_of_true (List.cons_lt_cons_iff.mpr (Or.inl hq.head)) (List.nil_lt_cons _ _)
  | cons x a ih =>
    rintro (_ | ⟨y, q⟩) R ha hq
    · exact iff_of_false (fun h => hY [] (List.lt_trans (List.cons_lt_cons_iff.mpr (Or.inl ha.head)) h))
        (List.not_lt_nil _)
    · simp only [List.cons_append, List.cons_lt_cons_iff, ih q R ha.tail hq.tail]

theorem isPrefixOf_append_sep (p : List Sym) : ∀ (a R : List Sym), Ge2 p →
    p.isPrefixOf (a ++ 1 :: R) = p.isPrefixOf a := by
  induction p with
  | nil => exact fun _ _ _ => rfl
  | cons y p ih =>
    rintro (_ | ⟨x, a⟩) R hp
    · simp only [List.nil_append, List.isPrefixOf, Bool.and_eq_false_imp, beq_iff_eq]
      exact fun e => absurd e (Nat.ne_of_gt hp.head)
    · simp only [List.cons_append, List.isPrefixOf, ih a R hp.tail]

theorem sep_prefix_iff (q a R : List Sym) (ha : Ge2 a) (hq : Ge2 q) :
    (q ++ [1]).isPrefixOf (a ++ 1 :: R) = true ↔ a = q := by
  rw [List.isPrefixOf_iff_prefix]
  constructor
  · intro h
    obtain ⟨a', rfl⟩ := List.isPrefixOf_iff_prefix.mp
      ((isPrefixOf_append_sep q a R hq).symm.trans (List.isPrefixOf_iff_prefix.mpr ((List.prefix_append q [1]).trans h)))
    rw [List.append_assoc, List.prefix_append_right_inj] at h
    cases a' with
    | nil => exact List.append_nil q
    | cons x t =>
      have := ha x (by simp)
      have := (List.cons_prefix_cons.mp h).1
      omega
  · rintro rfl
    exact (List.prefix_append_right_inj a).mpr ((List.cons_prefix_cons).mpr ⟨rfl, List.nil_prefix⟩)

/-- The pattern of `locate`: `\1 q \1`. -/
def patOf (q : Str) : List Sym := 1 :: (symsOf q ++ [1])

/-- The pattern of `locatePrefix`: `\1 p`. -/
def prePat (p : Str) : List Sym := 1 :: symsOf p

theorem ge1_pat {q : List Sym} (hq : Ge2 q) : ∀ x ∈ q ++ [1], 1 ≤ x := fun x hx => by
  rcases List.mem_append.mp hx with h | h
  · exact Nat.le_of_succ_le (hq x h)
  · exact Nat.le_of_eq (List.mem_singleton.mp h).symm

theorem symsOf_ne_nil {p : Str} (hne : p ≠ []) : symsOf p ≠ [] := fun h => hne (List.map_eq_nil_iff.mp h)

section text
variable {L : List Row} {S : List Str} (hSA : IsSA (mkText S) L) (hVS : ValidS S)
include hSA hVS

section sep
variable {X : List Sym} (hne : X ≠ []) (hX : ∀ x ∈ X, 1 ≤ x) {g : Str → Bool}
include hne hX

/-- The 3: `[]`, `[0]`, `[1, 0]` are below `\1 X`, as `X` starts with a symbol `≥ 1`. -/
theorem lo_sepPat (hg : ∀ s, Ge2 (symsOf s) → ∀ R, decide (symsOf s ++ 1 :: R < X) = g s) :
    lo L (1 :: X) = 3 + S.countP g := by
  obtain ⟨y, t, rfl⟩ := List.exists_cons_of_ne_nil hne
  have hy : 1 ≤ y := hX y List.mem_cons_self
  have h10 : ltP (1 :: y :: t) [1, 0] = true :=
    decide_eq_true (List.cons_lt_cons_iff.mpr (Or.inr ⟨rfl, List.cons_lt_cons_iff.mpr (Or.inl hy)⟩))
  rw [lo, cntq_mkText hSA hVS (kills_ltP_sep _) (g := g) (fun s hs R => by simp [ltP, ← hg s hs R]), h10]
  rw [Nat.add_comm 3]
  rfl

theorem occs_sepPat (hg : ∀ s, Ge2 (symsOf s) → ∀ R, X.isPrefixOf (symsOf s ++ 1 :: R) = g s) :
    occs L (1 :: X) = S.countP g := by
  obtain ⟨y, t, rfl⟩ := List.exists_cons_of_ne_nil hne
  have hy : 1 ≤ y := hX y List.mem_cons_self
  have h10 : preP (1 :: y :: t) [1, 0] = false := by
    simp only [preP, List.isPrefixOf, Bool.and_eq_false_imp, beq_iff_eq]
    omega
  rw [occs, cntq_mkText hSA hVS (kills_preP_sep _) (g := g) (fun s hs R => by simp [preP, ← hg s hs R]), h10]
  rfl

end sep

theorem lo_pat {q : Str} (hq : Ge2 (symsOf q)) :
    lo L (patOf q) = 3 + S.countP (fun s => decide (symsOf s < symsOf q)) :=
  lo_sepPat hSA hVS (by simp) (ge1_pat hq) fun s hs R =>
    decide_eq_decide.mpr (sep_lt_iff [1] (by simp) _ _ R hs hq)

theorem occs_pat {q : Str} (hq : Ge2 (symsOf q)) :
    occs L (patOf q) = S.countP (fun s => decide (symsOf s = symsOf q)) :=
  occs_sepPat hSA hVS (by simp) (ge1_pat hq) fun s hs R =>
    Bool.eq_iff_iff.mpr ((sep_prefix_iff _ _ R hs hq).trans decide_eq_true_iff.symm)

theorem lo_prePat {p : Str} (hp : Ge2 (symsOf p)) (hne : p ≠ []) :
    lo L (prePat p) = 3 + S.countP (fun s => decide (symsOf s < symsOf p)) :=
  lo_sepPat hSA hVS (symsOf_ne_nil hne) (fun x hx => Nat.le_of_succ_le (hp x hx)) fun s hs R =>
    decide_eq_decide.mpr (by simpa using sep_lt_iff [] (by simp) _ _ R hs hp)

theorem occs_prePat {p : Str} (hp : Ge2 (symsOf p)) (hne : p ≠ []) :
    occs L (prePat p) = S.countP (fun s => (symsOf p).isPrefixOf (symsOf s)) :=
  occs_sepPat hSA hVS (symsOf_ne_nil hne) (fun x hx => Nat.le_of_succ_le (hp x hx)) fun _ _ R =>
    isPrefixOf_append_sep _ _ R hp

/-- `[]` and `[0]` are below the last separator `[1, 0]`. -/
theorem lo_lastSep : lo L [1, 0] = 2 := by
  rw [lo, cntq_mkText hSA hVS (kills_ltP_sep _) (g := fun _ => false) fun s _ R => by
    cases h : symsOf s <;> simp [ltP, List.cons_lt_cons_iff]]
  simp [ltP, b2n, List.cons_lt_cons_iff]

/-- `occ[1]`. -/
theorem lo_one : lo L [1] = 2 := by
  rw [lo, cntq_mkText hSA hVS (kills_ltP_sep _) (g := fun _ => false) fun s _ R => by simp [ltP]]
  simp [ltP, b2n, List.cons_lt_cons_iff]

end text

end CSD.FM
