import CSD.Lemmas.Sorted
import CSD.Lemmas.PFCBasic

/-! The in-bucket scan of `StringDictionaryPFC::locate`: with its lcp shortcuts (`lcp_of_lcp_gt`) it gives the answer of
comparing the query with every string. -/
namespace CSD.PFC
open CSD

/-- Index (1-based, relative to `i`) of `q` in the remaining strings, or 0. -/
def foundAt (q : Str) (i : Nat) (L : List Str) : Nat :=
  match L.idxOf? q with
  | some j => i + j + 1
  | none => 0

theorem foundAt_zero (q : Str) (S : List Str) : foundAt q 0 S = Spec.locate S q := by
  unfold Spec.locate foundAt; cases S.idxOf? q <;> simp

theorem not_mem_of_all_gt {q : Str} {L : List Str} (h : ∀ s ∈ L, scmp q s < 0) : q ∉ L :=
  fun hm => scmp_irrefl_lt q (h q hm)

theorem foundAt_of_not_mem {q : Str} {L : List Str} (h : q ∉ L) (i : Nat) : foundAt q i L = 0 := by
  rw [foundAt, List.idxOf?_eq_none_iff.mpr h]

theorem foundAt_cons_self (q : Str) (i : Nat) (L : List Str) : foundAt q i (q :: L) = i + 1 := by
  simp [foundAt, List.idxOf?_cons]

theorem foundAt_cons_ne {q c : Str} (h : c ≠ q) (i : Nat) (L : List Str) :
    foundAt q i (c :: L) = foundAt q (i + 1) L := by
  simp only [foundAt, List.idxOf?_cons, beq_iff_eq, h, ↓reduceIte]
  cases L.idxOf? q with
  | none => rfl
  | some j => exact congrArg (· + 1) (Nat.add_right_comm i j 1)

theorem not_mem_of_lt_chain {q c : Str} {L : List Str} (hqc : scmp q c < 0) (hch : chain c L) : q ∉ c :: L :=
  not_mem_of_all_gt fun s hs => by
    rcases List.mem_cons.mp hs with rfl | e
    · exact hqc
    · exact scmp_trans_lt hqc (chain_all_gt hch s e)

theorem foundAt_append_left {q : Str} {A : List Str} (h : q ∉ A) (i : Nat) (B : List Str) :
    foundAt q i (A ++ B) = foundAt q (i + A.length) B := by
  induction A generalizing i with
  | nil => rfl
  | cons c A ih =>
    rw [List.cons_append, foundAt_cons_ne (fun e : c = q => h (List.mem_cons.mpr (Or.inl e.symm))),
      ih (fun m => h (List.mem_cons_of_mem _ m)), List.length_cons, Nat.add_right_comm, Nat.add_assoc]

theorem foundAt_append_right {q : Str} {B : List Str} (h : q ∉ B) (i : Nat) (A : List Str) :
    foundAt q i (A ++ B) = foundAt q i A := by
  induction A generalizing i with
  | nil => rw [List.nil_append, foundAt_of_not_mem h, foundAt_of_not_mem List.not_mem_nil]
  | cons c A ih =>
    by_cases e : c = q
    · subst e; rw [List.cons_append, foundAt_cons_self, foundAt_cons_self]
    · rw [List.cons_append, foundAt_cons_ne e, foundAt_cons_ne e, ih]

theorem _root_.CSD.Spec.locate_window {S : List Str} {q : Str} (a len : Nat) (ha : a ≤ S.length)
    (hlo : q ∉ S.take a) (hhi : q ∉ S.drop (a + len)) : Spec.locate S q = foundAt q a ((S.drop a).take len) := by
  have hS : S = S.take a ++ ((S.drop a).take len ++ S.drop (a + len)) := by
    rw [← List.drop_drop, List.take_append_drop, List.take_append_drop]
  rw [← foundAt_zero]
  conv => lhs; rw [hS]
  rw [foundAt_append_left hlo, foundAt_append_right hhi, Nat.zero_add, List.length_take_of_le ha]

theorem foundAt_add (q : Str) (a i : Nat) (L : List Str) :
    foundAt q (a + i) L = if foundAt q i L = 0 then 0 else a + foundAt q i L := by
  unfold foundAt
  cases L.idxOf? q with
  | none => rfl
  | some j => exact (Nat.add_assoc a i (j + 1)).trans (if_neg (Nat.succ_ne_zero _)).symm

theorem cmpFrom_of_le {c q : Str} {k : Nat} (hk : k ≤ lcp c q) : cmpFrom c q k = (scmp c q, lcp c q) := by
  rw [cmpFrom, ← scmp_drop_lcp c q k hk, ← lcp_add_drop c q k hk]

theorem cmpFrom_zero (a q : Str) : cmpFrom a q 0 = (scmp a q, lcp a q) := cmpFrom_of_le (Nat.zero_le _)

theorem eq_zero_iff_of_sign_eq {a b : Int} (h : a.sign = b.sign) : a = 0 ↔ b = 0 := by
  rw [← Int.sign_eq_zero_iff_zero, h, Int.sign_eq_zero_iff_zero]

theorem pos_iff_of_sign_eq {a b : Int} (h : a.sign = b.sign) : a > 0 ↔ b > 0 := by
  rw [gt_iff_lt, gt_iff_lt, ← Int.sign_eq_one_iff_pos, h, Int.sign_eq_one_iff_pos]

/-- One round of the loop decides by `strcmp(c, q)`, computed or inherited: `cmp` only carries the sign of
`strcmp(decoded, q)`, and so does the `cmp'` handed on. -/
theorem scanLoop_cons (q : Str) {c : Str} (hc : nulFree c) (decoded : Str) (L : List Str) (rest : List UInt8)
    (fuel i scanneable : Nat) (cmp : Int) (hi : i < scanneable) (hsign : cmp.sign = (scmp decoded q).sign) :
    ∃ cmp', cmp'.sign = (scmp c q).sign ∧
      scanLoop q (fuel + 1) i scanneable (encTail decoded (c :: L) ++ rest) decoded (lcp decoded q) cmp =
        if lcp decoded c < lcp decoded q then some 0
        else if scmp c q = 0 then some (i + 1)
        else if scmp c q > 0 then some 0
        else scanLoop q fuel (i + 1) scanneable (encTail c L ++ rest) c (lcp c q) cmp' := by
  obtain ⟨used, hdec, hrd⟩ := decode_encTail_cons decoded hc L rest
  -- one round by `rfl`: the equation lemmas of `scanLoop` are slow to generate
  rw [show scanLoop q (fuel + 1) i scanneable (encTail decoded (c :: L) ++ rest) decoded (lcp decoded q) cmp =
    ite (i < scanneable) _ _ from rfl, if_pos hi, hdec]
  simp only [Nat.not_lt.mpr (lcp_le_left decoded c), ↓reduceIte, hrd, take_lcp_append_drop]
  by_cases hlt : lcp decoded c < lcp decoded q
  · exact ⟨scmp c q, rfl, by rw [if_pos hlt, if_pos hlt]⟩
  · simp only [hlt, ↓reduceIte]
    by_cases heq : lcp decoded c = lcp decoded q
    · have hk : lcp decoded q ≤ lcp c q := by
        have := lcp_trans_ge decoded c q
        rwa [heq, Nat.min_self] at this
      exact ⟨scmp c q, rfl, by simp only [heq, ↓reduceIte, cmpFrom_of_le hk]⟩
    · obtain ⟨hl, hs⟩ := lcp_of_lcp_gt decoded c q (Nat.lt_of_le_of_ne (Nat.not_lt.mp hlt) (Ne.symm heq))
      have hsign' := hsign.trans (congrArg Int.sign hs.symm)
      exact ⟨cmp, hsign', by simp only [heq, ↓reduceIte, hl, eq_zero_iff_of_sign_eq hsign', pos_iff_of_sign_eq hsign']⟩

/-- `strcmp = 0 → equal` is asked of `L` directly (not `nulFree q`) so that `scanLoop_gt` can discharge it vacuously. -/
theorem scanLoop_foundAt (q : Str) (L : List Str) (decoded : Str) (i fuel scanneable : Nat) (rest : List UInt8)
    (cmp : Int) (hch : chain decoded L) (hnf : ∀ s ∈ L, nulFree s) (heq : ∀ s ∈ L, scmp s q = 0 → s = q)
    (hsc : scanneable = i + L.length) (hsign : cmp.sign = (scmp decoded q).sign) :
    scanLoop q fuel i scanneable (encTail decoded L ++ rest) decoded (lcp decoded q) cmp
      = some (foundAt q i (L.take fuel)) := by
  induction L generalizing decoded i fuel cmp with
  | nil =>
    cases fuel with
    | zero => rfl
    | succ fuel =>
      exact if_neg (by rw [hsc]; exact Nat.lt_irrefl i)
  | cons c L ih =>
    cases fuel with
    | zero => rfl
    | succ fuel =>
      obtain ⟨hc, hL⟩ := List.forall_mem_cons.mp hnf
      obtain ⟨cmp', hsign', e⟩ := scanLoop_cons q hc decoded L rest fuel i scanneable cmp
        (hsc ▸ Nat.lt_add_of_pos_right (Nat.succ_pos _)) hsign
      rw [e, List.take_succ_cons]
      have hbeyond : scmp q c < 0 → foundAt q i (c :: L.take fuel) = 0 := fun h =>
        foundAt_of_not_mem (fun hm => not_mem_of_lt_chain h hch.2 (List.mem_of_mem_take (i := fuel + 1) hm)) i
      by_cases hlt : lcp decoded c < lcp decoded q
      · rw [if_pos hlt, hbeyond (gt_of_lcp_lt decoded c q hlt hch.1)]
      · rw [if_neg hlt]
        by_cases h0 : scmp c q = 0
        · rw [if_pos h0, heq c List.mem_cons_self h0, foundAt_cons_self]
        · rw [if_neg h0]
          by_cases hgt : scmp c q > 0
          · rw [if_pos hgt, hbeyond ((scmp_lt_iff_gt q c).mpr hgt)]
          · rw [if_neg hgt, foundAt_cons_ne fun e : c = q => h0 (by rw [e, scmp_self])]
            exact ih c (i + 1) fuel cmp' hch.2 hL (fun s hs => heq s (List.mem_cons_of_mem _ hs))
              (hsc.trans (Nat.add_right_comm i L.length 1)) hsign'

/-! Not used by others: `scanLoop_foundAt` with the query above, resp. below `decoded`. -/

/-- **The scan loop is exact.** With `decoded` below the query and the rest of the bucket front-coded at the pointer,
the loop returns the in-bucket index of the query, 0 if it is not there, reading only inside the text. -/
theorem scanLoop_spec (q : Str) (hq : nulFree q) :
    ∀ (L : List Str) (decoded : Str) (i fuel scanneable : Nat) (rest : List UInt8) (cmp : Int),
      chain decoded L → (∀ s ∈ L, nulFree s) → nulFree decoded →
      scanneable = i + L.length → L.length ≤ fuel →
      cmp < 0 → scmp decoded q < 0 →
      scanLoop q fuel i scanneable (encTail decoded L ++ rest) decoded (lcp decoded q) cmp
        = some (foundAt q i L) := by
  intro L decoded i fuel scanneable rest cmp hch hnf _ hsc hfuel hcmp hdq
  rw [scanLoop_foundAt q L decoded i fuel scanneable rest cmp hch hnf
    (fun s hs => (scmp_eq_zero (hnf s hs) hq).mp) hsc
    ((Int.sign_eq_neg_one_of_neg hcmp).trans (Int.sign_eq_neg_one_of_neg hdq).symm), List.take_of_length_le hfuel]

/-- When the last decoded string is already above the query the loop finds nothing. -/
theorem scanLoop_gt (q : Str) :
    ∀ (L : List Str) (decoded : Str) (i fuel scanneable : Nat) (rest : List UInt8) (cmp : Int),
      chain decoded L → (∀ s ∈ L, nulFree s) → scanneable = i + L.length →
      cmp > 0 → scmp decoded q > 0 →
      scanLoop q fuel i scanneable (encTail decoded L ++ rest) decoded (lcp decoded q) cmp = some 0 := by
  intro L decoded i fuel scanneable rest cmp hch hnf hsc hcmp hdq
  have hgt : ∀ s ∈ L, scmp q s < 0 := fun s hs =>
    scmp_trans_lt ((scmp_lt_iff_gt q decoded).mpr hdq) (chain_all_gt hch s hs)
  rw [scanLoop_foundAt q L decoded i fuel scanneable rest cmp hch hnf
    (fun s hs h0 => absurd (hgt s hs) (by rw [scmp_antisymm s q, h0]; exact Int.lt_irrefl 0)) hsc
    ((Int.sign_eq_one_of_pos hcmp).trans (Int.sign_eq_one_of_pos hdq).symm),
    foundAt_of_not_mem fun h => not_mem_of_all_gt hgt (List.mem_of_mem_take h)]

end CSD.PFC
