import CSD.Model.ChunkDec

/-! Bit lists, most significant bit first (`idxBits`; `byteBits b` is `idxBits 8 b`), and their numbers (`bitsVal`);
first, two lemmas about any list. -/
namespace CSD

theorem snoc_induction {α : Type} {P : List α → Prop} (nil : P []) (snoc : ∀ l a, P l → P (l ++ [a])) :
    ∀ l, P l := by
  intro l
  rw [← List.reverse_reverse l]
  induction l.reverse with
  | nil => exact nil
  | cons a l ih => rw [List.reverse_cons]; exact snoc _ a ih

theorem getElem?_take_pad {α : Type} (l : List α) (a : α) (m d : Nat) :
    ((l ++ List.replicate m a).take m)[d]? = if d < m then some (l[d]?.getD a) else none := by
  rw [List.getElem?_take]
  split
  · rename_i hd
    rw [List.getElem?_append]
    split
    · rename_i h; rw [List.getElem?_eq_getElem h]; rfl
    · rename_i h
      rw [List.getElem?_replicate, if_pos (Nat.lt_of_le_of_lt (Nat.sub_le _ _) hd),
        List.getElem?_eq_none (Nat.not_lt.mp h)]; rfl
  · rfl

end CSD

namespace CSD.ChunkDec

theorem idxBits_length (k n : Nat) : (idxBits k n).length = k := by
  rw [idxBits, List.length_map, List.length_range]

theorem idxBits_getElem? (k n j : Nat) (hj : j < k) : (idxBits k n)[j]? = some (n.testBit (k - 1 - j)) := by
  rw [idxBits, List.getElem?_map, List.getElem?_range hj]
  rfl

theorem idxBits_getD (k n j : Nat) : (idxBits k n)[j]?.getD false = (decide (j < k) && n.testBit (k - 1 - j)) := by
  by_cases hj : j < k
  · rw [idxBits_getElem? k n j hj, decide_eq_true hj]; rfl
  · rw [List.getElem?_eq_none (by rw [idxBits_length]; exact Nat.not_lt.mp hj), decide_eq_false hj]; rfl

theorem byteBits_length (b : Nat) : (byteBits b).length = 8 := idxBits_length 8 b

theorem byteBits_getElem? (b j : Nat) (hj : j < 8) : (byteBits b)[j]? = some (b.testBit (7 - j)) :=
  idxBits_getElem? 8 b j hj

theorem idxBits_succ (k n : Nat) : idxBits (k + 1) n = idxBits k (n / 2) ++ [n.testBit 0] := by
  unfold idxBits
  rw [List.range_succ, List.map_append, List.map_singleton, Nat.add_sub_cancel, Nat.sub_self]
  congr 1
  apply List.map_congr_left
  intro i hi
  rw [Nat.testBit_div_two, Nat.sub_right_comm, Nat.sub_add_cancel (Nat.sub_pos_of_lt (List.mem_range.mp hi))]

theorem bitsVal_concat (l : List Bool) (b : Bool) : bitsVal (l ++ [b]) = 2 * bitsVal l + (if b then 1 else 0) :=
  List.foldl_append

theorem bit_div_two (v : Nat) (b : Bool) : (2 * v + (if b then 1 else 0)) / 2 = v := by
  rw [Nat.mul_add_div (by decide)]
  cases b <;> rfl

theorem bitsVal_lt (l : List Bool) : bitsVal l < 2 ^ l.length := by
  induction l using snoc_induction with
  | nil => exact Nat.one_pos
  | snoc l b ih =>
    rw [bitsVal_concat, List.length_append, List.length_singleton, Nat.pow_succ, ← Nat.div_lt_iff_lt_mul (by decide),
      bit_div_two]
    exact ih

theorem idxBits_bitsVal (l : List Bool) : idxBits l.length (bitsVal l) = l := by
  induction l using snoc_induction with
  | nil => rfl
  | snoc l b ih =>
    have hb : (2 * bitsVal l + (if b then 1 else 0)).testBit 0 = b := by
      rw [Nat.testBit_zero, Nat.mul_add_mod]
      cases b <;> rfl
    rw [bitsVal_concat, List.length_append, List.length_singleton, idxBits_succ, bit_div_two, hb, ih]

theorem bitsVal_idxBits (k n : Nat) (hn : n < 2 ^ k) : bitsVal (idxBits k n) = n := by
  induction k generalizing n with
  | zero => rw [Nat.lt_one_iff.mp hn]; rfl
  | succ k ih =>
    have hb : (if n.testBit 0 then 1 else 0) = n % 2 := by
      rw [Nat.testBit_zero]
      rcases Nat.mod_two_eq_zero_or_one n with h | h
      · rw [h]; rfl
      · rw [h]; rfl
    rw [idxBits_succ, bitsVal_concat, ih _ (Nat.div_lt_of_lt_mul (by rwa [Nat.pow_succ, Nat.mul_comm] at hn)), hb,
      Nat.div_add_mod]

end CSD.ChunkDec
