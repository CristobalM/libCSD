import CSD.Lemmas.PFCIter
import CSD.Lemmas.PFCLocatePrefix

/-! `IteratorDictStringPFC` opened inside a bucket on an ID range, and `extractPrefix`: `locatePrefix`, then such a
scan. -/
namespace CSD.PFC
open CSD

/-- **A range scan is exact**: the string iterator opened on the ID range `[left, right]` of a built
dictionary drains to exactly the members with those IDs, in order, with every read inside the text. -/
theorem scanRange_build (b0 : Nat) (S : List Str) (hS : ∀ s ∈ S, nulFree s) (left right : Nat)
    (h1 : 1 ≤ left) (h2 : left ≤ right) (h3 : right ≤ S.length) :
    scanRange (build b0 S) left right = some ((S.drop (left - 1)).take (right - left + 1)) := by
  have hlen : left - 1 < S.length ∧ right - left + 1 ≤ S.length ∧ left - 1 + (right - left + 1) ≤ S.length := by omega
  have hdecomp := Nat.div_add_mod (left - 1) (clamp b0)
  have holt := Nat.mod_lt (left - 1) (clamp_pos b0)
  unfold scanRange
  rw [build_bucketsize, build_elements]
  simp only
  generalize (left - 1) / clamp b0 = k at hdecomp ⊢
  generalize (left - 1) % clamp b0 = offset at hdecomp holt ⊢
  rw [Nat.mul_comm] at hdecomp
  have hpos : k * clamp b0 + offset < S.length := hdecomp ▸ hlen.1
  rw [Nat.add_comm 1 k, bucketPtr_build_all b0 S k (Nat.lt_of_le_of_lt (Nat.le_add_right _ _) hpos)]
  simp only
  obtain ⟨it, hopen, hp, hs, hB⟩ := Iter.open_before (b := clamp b0) (rest := []) hS k offset (right - left + 1) holt
    hpos
  rw [List.append_nil] at hopen
  rw [hopen]
  simp only
  rw [Iter.drain_before hS (clamp_pos b0) (hB := hB) (ho := Nat.le_of_lt holt) (hpos := hdecomp)
    (hm := by rw [hp, hs, Nat.zero_add]) (hf := hlen.2.1) (hlen := hlen.2.2)]

/-- **`extractPrefix` is exact** on every built dictionary: NULL when no member starts with the pattern,
otherwise exactly the members that start with it, in order. -/
theorem extractPrefix_build (b0 : Nat) (S : List Str) (q : Str) (hne : S ≠ []) (hS : ∀ s ∈ S, nulFree s)
    (hsort : SortedLt S) (hq : nulFree q) :
    extractPrefix (build b0 S) q =
      some (if S.filter (isPrefix q) = [] then none else some (S.filter (isPrefix q))) := by
  obtain ⟨lo, hi, hloc, hchar⟩ := locatePrefix_build b0 S q hne hS hsort hq
  unfold extractPrefix
  rw [hloc]
  simp only
  rcases hchar.filter_cases with ⟨rfl, hf⟩ | ⟨h1, h2, h3, hne', hf⟩
  · simp [hf]
  · rw [if_neg (Nat.ne_of_gt h1), scanRange_build b0 S hS lo hi h1 h2 h3, ← hf]
    simp [hne']

/-! Not used by others (`Iter.drain_before` takes any limit and any offset): -/

/-- `next()` passes the `scanneable` field on unread: it only decides where the scan stops. -/
theorem next_scan (m : Nat) {it it' : Iter} {s : Str} (h : it.next = some (s, it')) :
    it'.processed = it.processed + 1 ∧ it'.scanneable = it.scanneable ∧
      ({ it with scanneable := m } : Iter).next = some (s, { it' with scanneable := m }) := by
  unfold Iter.next at h ⊢
  simp only at h ⊢
  by_cases h0 : it.pos % it.bucketsize = 0
  · rw [if_pos h0] at h ⊢
    cases hr : readCStr it.ptr with
    | none => rw [hr] at h; cases h
    | some p => rw [hr] at h; cases h; exact ⟨rfl, rfl, rfl⟩
  · rw [if_neg h0] at h ⊢
    cases hr : decodeNext it.ptr it.cur with
    | none => rw [hr] at h; cases h
    | some p => rw [hr] at h; cases h; exact ⟨rfl, rfl, rfl⟩

/-- Stopping earlier yields a prefix of the full scan. -/
theorem drain_scan : ∀ (f : Nat) (it : Iter) (l : List Str), Iter.drain f it = some l →
    ∀ m, it.processed ≤ m → m ≤ it.scanneable →
      Iter.drain f { it with scanneable := m } = some (l.take (m - it.processed))
  | 0, it, l, h, m, _, _ => by cases h; exact congrArg some List.take_nil.symm
  | f + 1, it, l, h, m, h1, h2 => by
    rw [Iter.drain] at h ⊢
    by_cases hm : it.processed < m
    · rw [show it.hasNext = true from decide_eq_true (Nat.lt_of_lt_of_le hm h2), if_pos rfl] at h
      rw [show ({ it with scanneable := m } : Iter).hasNext = true from decide_eq_true hm, if_pos rfl]
      cases hn : it.next with
      | none => rw [hn] at h; cases h
      | some p =>
        obtain ⟨hp, hs, hn'⟩ := next_scan m hn
        rw [hn] at h
        rw [hn']
        simp only at h ⊢
        cases hd : Iter.drain f p.2 with
        | none => rw [hd] at h; cases h
        | some l' =>
          rw [hd] at h
          cases h
          rw [drain_scan f p.2 l' hd m (Nat.le_trans (Nat.le_of_eq hp) hm) (Nat.le_trans h2 (Nat.le_of_eq hs.symm)), hp,
            (Nat.succ_sub_succ m _).symm.trans (Nat.succ_sub hm), List.take_succ_cons]
    · rw [show ({ it with scanneable := m } : Iter).hasNext = false from decide_eq_false hm,
        Nat.sub_eq_zero_of_le (Nat.le_of_not_lt hm)]
      rfl

/-- **Opening the iterator at any in-bucket offset and scanning to the end** yields the members from that
position on. -/
theorem open_drain (b : Nat) (hb : 2 ≤ b) (S' : List Str) (hS : ∀ s ∈ S', nulFree s) (offset : Nat)
    (ho : offset < min b S'.length) (f : Nat) (hf : S'.length ≤ f) :
    ∃ it, Iter.open ((chunks b S').map encBucket).flatten offset b (S'.length - offset) = some it ∧
      it.processed = 0 ∧ it.scanneable = S'.length - offset ∧ Iter.drain f it = some (S'.drop offset) := by
  have hob : offset < b := Nat.lt_of_lt_of_le ho (Nat.min_le_left _ _)
  have hol : offset < S'.length := Nat.lt_of_lt_of_le ho (Nat.min_le_right _ _)
  obtain ⟨it, hopen, hp, hs, hB⟩ := Iter.open_before (b := b) (rest := []) hS 0 offset (S'.length - offset) hob
    (by rwa [Nat.zero_mul, Nat.zero_add])
  rw [Nat.zero_mul, List.drop_zero, List.append_nil] at hopen
  refine ⟨it, hopen, hp, hs, ?_⟩
  rw [Iter.drain_before hS (Nat.lt_of_lt_of_le Nat.two_pos hb) (n := offset) (hB := hB) (ho := Nat.le_of_lt hob)
    (hpos := by rw [Nat.zero_mul, Nat.zero_add]) (hm := by rw [hp, hs, Nat.zero_add])
    (hf := Nat.le_trans (Nat.sub_le _ _) hf) (hlen := Nat.le_of_eq (Nat.add_sub_of_le (Nat.le_of_lt hol))),
    ← List.length_drop, List.take_length]

end CSD.PFC
