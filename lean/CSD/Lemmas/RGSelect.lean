import CSD.Lemmas.RG
import CSD.Lemmas.BinSearch

/-! `BitSequenceRG::select1` and `select0` are one routine run with two ways of counting: `selBinG`,
`selWordsG`, `skipBytes`, `selBitsG` and `selCore` take the counting functions as parameters, and the fixed
loops are their instances (`*_eq_*`). -/
namespace CSD.RG

def selBinG (R : Nat → Nat) (x : Nat) : Nat → Nat → Nat → Nat → Option Nat
  | 0, _, _, _ => none
  | fuel + 1, l, r, mid =>
    if l ≤ r then
      if R mid < x then selBinG R x fuel (mid + 1) r ((mid + 1 + r) / 2)
      else if mid = 0 then none
      else selBinG R x fuel l (mid - 1) ((l + (mid - 1)) / 2)
    else some mid

def selWordsG (c : Nat → Nat) (words : List Nat) (integers : Nat) : Nat → Nat → Nat → Option (Option (Nat × Nat))
  | 0, _, _ => none
  | fuel + 1, left, x =>
    match words[left]? with
    | none => none
    | some j =>
      if c j < x then
        if left + 1 > integers then some none else selWordsG c words integers fuel (left + 1) (x - c j)
      else some (some (left, x))

/-- `selBytes` is three nested tests; as a loop of at most `d` skips its spec is a one-step induction. -/
def skipBytes (c8 : Nat → Nat) : Nat → Nat → Nat → Nat → Nat × Nat × Nat
  | 0, j, x, off => (j, x, off)
  | d + 1, j, x, off => if c8 j < x then skipBytes c8 d (j >>> 8) (x - c8 j) (off + 8) else (j, x, off)

def selBitsG (t : Nat → Prop) [DecidablePred t] : Nat → Nat → Nat → Nat → Option Nat
  | 0, _, _, _ => none
  | fuel + 1, j, x, left => if x > 0 then selBitsG t fuel (j >>> 1) (if t j then x - 1 else x) (left + 1) else some left

theorem selBin_eq_selBinG (words : List Nat) (factor x fuel : Nat) :
    selBin words factor x fuel = selBinG (Rs words factor) x fuel := by
  induction fuel with
  | zero => rfl
  | succ fuel ih =>
    funext l r mid
    rw [selBin, selBinG, ih]

theorem selBin0_eq_selBinG (words : List Nat) (factor x fuel : Nat) :
    selBin0 words factor x fuel = selBinG (Rs0 words factor) x fuel := by
  induction fuel with
  | zero => rfl
  | succ fuel ih =>
    funext l r mid
    rw [selBin0, selBinG, ih]

theorem selWords_eq_selWordsG (words : List Nat) (integers fuel : Nat) :
    selWords words integers fuel = selWordsG popcount words integers fuel := by
  induction fuel with
  | zero => rfl
  | succ fuel ih =>
    funext left x
    rw [selWords, selWordsG, ih]
    rfl

theorem selWords0_eq_selWordsG (words : List Nat) (integers fuel : Nat) :
    selWords0 words integers fuel = selWordsG (fun j => 32 - popcount j) words integers fuel := by
  induction fuel with
  | zero => rfl
  | succ fuel ih =>
    funext left x
    rw [selWords0, selWordsG, ih]
    rfl

theorem selBytes_eq_skipBytes (j x : Nat) : selBytes j x = skipBytes popcount8 3 j x 0 := rfl
theorem selBytes0_eq_skipBytes (j x : Nat) : selBytes0 j x = skipBytes (fun j => 8 - popcount8 j) 3 j x 0 := rfl

theorem selBits_eq_selBitsG (fuel : Nat) : selBits fuel = selBitsG (fun j => j % 2 = 1) fuel := by
  induction fuel with
  | zero => rfl
  | succ fuel ih =>
    funext j x left
    rw [selBits, selBitsG, ih]

theorem selBits0_eq_selBitsG (fuel : Nat) : selBits0 fuel = selBitsG (fun j => j % 2 = 0) fuel := by
  induction fuel with
  | zero => rfl
  | succ fuel ih =>
    funext j x left
    rw [selBits0, selBitsG, ih]

/-- Every loop holds a position `a` and the count `x - cnt f b a` still wanted, where `x = cnt f b p + 1` and `p`
holds a `b`. It moves behind a block of `k` positions iff the block ends at or before `p`. In a word the stream is
`j.testBit` and position `a` is the word `j >>> a`. -/
theorem skip_iff {f : Nat → Bool} {b : Bool} {p : Nat} (hp : f p = b) (a k : Nat) :
    cnt (fun i => f (a + i)) b k < cnt f b p + 1 - cnt f b a ↔ a + k ≤ p := by
  rw [Nat.lt_sub_iff_add_lt', ← cnt_add, cnt_lt_succ_iff hp]

theorem skip_sub (f : Nat → Bool) (b : Bool) (x a k : Nat) :
    x - cnt f b a - cnt (fun i => f (a + i)) b k = x - cnt f b (a + k) := by
  rw [Nat.sub_sub, ← cnt_add]

theorem skipBytes_spec {b : Bool} {c8 : Nat → Nat} (hc8 : ∀ j, c8 j = cnt j.testBit b 8) {j q : Nat}
    (h : j.testBit q = b) : ∀ (d a : Nat), a ≤ q → ∃ a', a' ≤ q ∧
      skipBytes c8 d (j >>> a) (cnt j.testBit b q + 1 - cnt j.testBit b a) a =
        (j >>> a', cnt j.testBit b q + 1 - cnt j.testBit b a', a')
  | 0, a, ha => ⟨a, ha, rfl⟩
  | d + 1, a, ha => by
    rw [skipBytes, hc8, testBit_shiftRight_fun]
    by_cases h8 : a + 8 ≤ q
    · rw [if_pos ((skip_iff h a 8).mpr h8), skip_sub, ← Nat.shiftRight_add]
      exact skipBytes_spec hc8 h d (a + 8) h8
    · rw [if_neg (mt (skip_iff h a 8).mp h8)]
      exact ⟨a, ha, rfl⟩

theorem selBitsG_spec {b : Bool} {t : Nat → Prop} [DecidablePred t] (ht : ∀ j, t j ↔ j.testBit 0 = b) {j q : Nat}
    (h : j.testBit q = b) : ∀ (fuel d a left : Nat), a + d = q → d < fuel →
    selBitsG t (fuel + 1) (j >>> a) (cnt j.testBit b q + 1 - cnt j.testBit b a) left = some (left + d + 1) := by
  have step : ∀ j x, (if t j then x - 1 else x) = x - cnt j.testBit b 1 := by
    intro j x
    rw [cnt_succ, cnt_zero, Nat.zero_add]
    by_cases h0 : j.testBit 0 = b
    · rw [if_pos ((ht j).mpr h0), if_pos h0]
    · rw [if_neg (mt (ht j).mp h0), if_neg h0]; rfl
  intro fuel
  induction fuel with
  | zero => intro d _ _ _ hf; exact absurd hf (Nat.not_lt_zero d)
  | succ fuel ih =>
    intro d a left ha hf
    rw [selBitsG, if_pos (Nat.sub_pos_of_lt ((cnt_lt_succ_iff h a).mpr (Nat.le.intro ha))), step, testBit_shiftRight_fun,
      skip_sub, ← Nat.shiftRight_add]
    cases d with
    | zero =>
      obtain rfl : a = q := ha
      rw [cnt_succ, if_pos h, Nat.sub_self, selBitsG, if_neg (Nat.lt_irrefl 0)]
    | succ d =>
      rw [ih d (a + 1) (left + 1) (by rw [Nat.add_right_comm]; exact ha) (Nat.lt_of_succ_lt_succ hf),
        Nat.add_right_comm left 1 d, Nat.add_assoc left d 1]

/-- Invariant `R (l - 1) < x`, which the truncated `l - 1` makes `h0` at `l = 0`; measure `r + 1 < l + fuel`. `R m < x`
is all the rest needs: such a block starts at or before the target (`cnt_lt_succ_iff`). -/
theorem selBinG_spec (R : Nat → Nat) (x : Nat) (h0 : R 0 < x) :
    ∀ (fuel l r : Nat), l ≤ r + 1 → r + 1 < l + fuel → R (l - 1) < x →
    ∃ m, selBinG R x fuel l r ((l + r) / 2) = some m ∧ R m < x := by
  intro fuel
  induction fuel with
  | zero => intro l r hlr hf; exact absurd hf (Nat.not_lt.mpr hlr)
  | succ fuel ih =>
    intro l r hlr hf hinv
    rw [selBinG]
    by_cases hle : l ≤ r
    · have hm := Search.mid_bounds hle
      generalize (l + r) / 2 = mid at hm ⊢
      rw [if_pos hle]
      by_cases hlt : R mid < x
      · rw [if_pos hlt]
        have hf' : r + 1 < mid + 1 + fuel :=
          Nat.add_right_comm mid fuel 1 ▸ Nat.lt_of_lt_of_le hf (Nat.add_le_add_right hm.1 _)
        exact ih _ r (Nat.succ_le_succ hm.2) hf' hlt
      · obtain ⟨m, rfl⟩ : ∃ m, mid = m + 1 := Nat.exists_eq_succ_of_ne_zero fun e => hlt (e ▸ h0)
        rw [if_neg hlt, if_neg (Nat.succ_ne_zero m)]
        have hf' : m + 1 < l + fuel := Nat.lt_of_le_of_lt hm.2 (Nat.lt_of_succ_lt_succ hf)
        exact ih l m hm.1 hf' hinv
    · obtain rfl : l = r + 1 := Nat.le_antisymm hlr (Nat.lt_of_not_le hle)
      have e : (r + 1 + r) / 2 = r := by
        rw [Nat.add_right_comm, ← Nat.two_mul, Nat.mul_add_div (by decide), Nat.div_eq_of_lt (by decide), Nat.add_zero]
      rw [if_neg hle, e]
      exact ⟨r, rfl, hinv⟩

theorem selWordsG_spec {b : Bool} {c : Nat → Nat} (hc : ∀ j, c j = cnt j.testBit b 32) {words : List Nat}
    {integers k q : Nat} (hk : k < words.length) (hq : q < 32) (hb : words[k].testBit q = b) (hint : words.length ≤ integers) :
    ∀ (fuel left : Nat), left ≤ k → k - left < fuel →
    selWordsG c words integers fuel left (cnt (access words) b (32 * k + q) + 1 - cnt (access words) b (32 * left)) =
      some (some (k, cnt words[k].testBit b q + 1)) := by
  have hb' : access words (32 * k + q) = b := (access_getElem words hk hq).trans hb
  intro fuel
  induction fuel with
  | zero => intro left _ hf; exact absurd hf (Nat.not_lt_zero _)
  | succ fuel ih =>
    intro left hl hf
    have hk' : left < words.length := Nat.lt_of_le_of_lt hl hk
    rw [selWordsG, List.getElem?_eq_getElem hk']
    simp only
    rw [hc, ← cnt_word words hk' b (Nat.le_refl 32)]
    by_cases e : left = k
    · subst e
      rw [if_neg (mt (skip_iff hb' _ _).mp (Nat.not_le.mpr (Nat.add_lt_add_left hq _))), cnt_add,
        cnt_word words hk b (Nat.le_of_lt hq), Nat.add_assoc, Nat.add_sub_cancel_left]
    · have hlt : left < k := Nat.lt_of_le_of_ne hl e
      have hnext : 32 * left + 32 ≤ 32 * k + q := Nat.le_trans (Nat.mul_le_mul_left 32 hlt) (Nat.le_add_right _ q)
      have hin : left + 1 ≤ integers := Nat.le_trans hlt (Nat.le_trans (Nat.le_of_lt hk) hint)
      rw [if_pos ((skip_iff hb' _ _).mpr hnext), if_neg (Nat.not_lt.mpr hin), skip_sub, ← Nat.mul_succ]
      exact ih (left + 1) hlt (Nat.lt_of_lt_of_le (Nat.sub_succ_lt_self k left hlt) (Nat.le_of_lt_succ hf))

/-- `select1`/`select0` behind their range checks; `kont` turns the bit loop's stop into the answer. -/
def selCore (R c c8 : Nat → Nat) (t : Nat → Prop) [DecidablePred t] (kont : Nat → Option Nat)
    (words : List Nat) (factor n x : Nat) : Option Nat :=
  let s := 32 * factor
  match selBinG R x (n / s + 3) 0 (n / s) ((0 + n / s) / 2) with
  | none => none
  | some mid =>
    match selWordsG c words (n / 32 + 1) (words.length + 1) (mid * factor) (x - R mid) with
    | none => none
    | some none => some n
    | some (some (left, x')) =>
      match words[left]? with
      | none => none
      | some j =>
        let (j', x'', off) := skipBytes c8 3 j x' 0
        match selBitsG t 40 j' x'' (left * 32 + off) with
        | none => none
        | some p => kont p

theorem selCore_spec {b : Bool} {R c c8 : Nat → Nat} {t : Nat → Prop} [DecidablePred t] {words : List Nat} {factor : Nat}
    (hR : ∀ m, R m = cnt (access words) b (32 * (m * factor))) (hc : ∀ j, c j = cnt j.testBit b 32)
    (hc8 : ∀ j, c8 j = cnt j.testBit b 8) (ht : ∀ j, t j ↔ j.testBit 0 = b) (kont : Nat → Option Nat)
    {n p : Nat} (hp : p < 32 * words.length) (hb : access words p = b) (hint : words.length ≤ n / 32 + 1) :
    selCore R c c8 t kont words factor n (cnt (access words) b p + 1) = kont (p + 1) := by
  obtain ⟨k, q, hq, rfl⟩ := ListIdx.exists_div_mod 32 (by decide) p
  have hk : k < words.length := Nat.lt_of_mul_lt_mul_left (Nat.lt_of_le_of_lt (Nat.le_add_right _ q) hp)
  have hbk : words[k].testBit q = b := (access_getElem words hk hq).symm.trans hb
  have h0 : R 0 < cnt (access words) b (32 * k + q) + 1 := by
    rw [hR, Nat.zero_mul, Nat.mul_zero, cnt_zero]; exact Nat.succ_pos _
  obtain ⟨mid, hmid, hlt⟩ := selBinG_spec R _ h0 (n / (32 * factor) + 3) 0 (n / (32 * factor)) (Nat.zero_le _)
    ((Nat.zero_add _).symm ▸ Nat.add_lt_add_left (show 1 < 3 by decide) _) h0
  rw [hR, cnt_lt_succ_iff hb] at hlt
  have hmk : mid * factor ≤ k :=
    Nat.le_of_lt_succ (Nat.lt_of_mul_lt_mul_left (Nat.lt_of_le_of_lt hlt (Nat.add_lt_add_left hq _)))
  have hsw : selWordsG c words (n / 32 + 1) (words.length + 1) (mid * factor)
      (cnt (access words) b (32 * k + q) + 1 - cnt (access words) b (32 * (mid * factor))) =
        some (some (k, cnt words[k].testBit b q + 1)) :=
    selWordsG_spec hc hk hq hbk hint (words.length + 1) (mid * factor) hmk
      (Nat.lt_succ_of_le (Nat.le_trans (Nat.sub_le k _) (Nat.le_of_lt hk)))
  have hj : words[k]? = some words[k] := List.getElem?_eq_getElem hk
  generalize words[k] = j at hbk hsw hj
  obtain ⟨a, ha, hby⟩ : ∃ a, a ≤ q ∧ skipBytes c8 3 j (cnt j.testBit b q + 1) 0 =
      (j >>> a, cnt j.testBit b q + 1 - cnt j.testBit b a, a) := by
    simpa only [Nat.shiftRight_zero, cnt_zero, Nat.sub_zero] using skipBytes_spec hc8 hbk 3 0 (Nat.zero_le _)
  have hbits : selBitsG t 40 (j >>> a) (cnt j.testBit b q + 1 - cnt j.testBit b a) (k * 32 + a) =
      some (k * 32 + q + 1) := by
    rw [selBitsG_spec ht hbk 39 (q - a) a (k * 32 + a) (Nat.add_sub_cancel' ha)
      (Nat.lt_of_le_of_lt (Nat.sub_le q a) (Nat.lt_trans hq (by decide))), Nat.add_assoc (k * 32) a,
      Nat.add_sub_cancel' ha]
  simp only [selCore, hmid, hR, hsw, hj, hby, hbits]
  rw [Nat.mul_comm k 32]

theorem select1_eq_selCore (words : List Nat) (factor n total x : Nat) :
    select1 words factor n total x =
      if x > total then some (2 ^ 32 - 1) else if x = 0 then some (2 ^ 32 - 1)
      else selCore (Rs words factor) popcount popcount8 (fun j => j % 2 = 1) (fun p => some (p - 1)) words factor n x := by
  unfold select1 selCore
  simp only [selBin_eq_selBinG, selWords_eq_selWordsG, selBytes_eq_skipBytes, selBits_eq_selBitsG]
  rfl

theorem select1_at (words : List Nat) (factor n total p : Nat) (hp : p < 32 * words.length) (hb : access words p = true)
    (htot : ones words p < total) (hint : words.length ≤ n / 32 + 1) :
    select1 words factor n total (ones words p + 1) = some p := by
  rw [select1_eq_selCore, if_neg (Nat.not_lt.mpr htot), if_neg (Nat.succ_ne_zero _), ones_eq_cnt,
    selCore_spec (fun m => by rw [Rs_eq, ones_eq_cnt]) popcount_eq_cnt popcount8_eq_cnt
      (fun _ => Nat.mod_two_eq_one_iff_testBit_zero) _ hp hb hint]
  rfl

/-- **`select1` is exact**: for `1 ≤ x ≤ ones` the answer is the position of the `x`-th one (the bit there is set,
`x - 1` ones precede it), and no read leaves the arrays. -/
theorem select1_spec (words : List Nat) (factor n total x : Nat) (hf : 0 < factor) (hx1 : 1 ≤ x) (hx2 : x ≤ total)
    (htot : total ≤ ones words (32 * words.length)) (hint : words.length ≤ n / 32 + 1) :
    ∃ p, select1 words factor n total x = some p ∧ (allBits words)[p]? = some true ∧ ones words p = x - 1 := by
  rw [ones_eq_cnt] at htot
  obtain ⟨p, hp, hb, rfl⟩ := exists_nth (access words) true hx1 (Nat.le_trans hx2 htot)
  rw [← ones_eq_cnt] at hx2 ⊢
  exact ⟨p, select1_at words factor n total p hp hb hx2 hint, hb ▸ allBits_getElem? words p hp, rfl⟩

theorem select0_eq_selCore (words : List Nat) (factor n total x : Nat) :
    select0 words factor n total x =
      if x > n - total then some (2 ^ 32 - 1) else if x = 0 then some 0
      else selCore (Rs0 words factor) (fun j => 32 - popcount j) (fun j => 8 - popcount8 j) (fun j => j % 2 = 0)
        (fun p => if p - 1 > n then some n else some (p - 1)) words factor n x := by
  unfold select0 selCore
  simp only [selBin0_eq_selBinG, selWords0_eq_selWordsG, selBytes0_eq_skipBytes, selBits0_eq_selBitsG]
  rfl

theorem select0_at (words : List Nat) (factor n total p : Nat) (hp : p < n) (hb : access words p = false)
    (htot : zeros words p < n - total) (hlen : words.length = n / 32 + 1) :
    select0 words factor n total (zeros words p + 1) = some p := by
  rw [select0_eq_selCore, if_neg (Nat.not_lt.mpr htot), if_neg (Nat.succ_ne_zero _), zeros_eq_cnt,
    selCore_spec (fun m => by rw [Rs0_eq, zeros_eq_cnt]) sub_popcount sub_popcount8 (fun _ => Nat.mod_two_eq_zero_iff_testBit_zero) _
      (hlen ▸ Nat.lt_trans hp (Nat.lt_mul_div_succ n (by decide))) hb (Nat.le_of_eq hlen),
    Nat.add_sub_cancel, if_neg (Nat.not_lt.mpr (Nat.le_of_lt hp))]

/-- **`select0` is exact**: for `1 ≤ x ≤ n - ones` the answer `p < n` is the position of the `x`-th zero (the bit
there is clear, `x - 1` zeros precede it), and no read leaves the arrays. -/
theorem select0_spec (words : List Nat) (factor n total x : Nat) (hf : 0 < factor) (hx1 : 1 ≤ x) (hx2 : x ≤ n - total)
    (htot : n - total ≤ zeros words n) (hlen : words.length = n / 32 + 1) :
    ∃ p, select0 words factor n total x = some p ∧ p < n ∧ (allBits words)[p]? = some false ∧ zeros words p = x - 1 := by
  rw [zeros_eq_cnt] at htot
  obtain ⟨p, hp, hb, rfl⟩ := exists_nth (access words) false hx1 (Nat.le_trans hx2 htot)
  rw [← zeros_eq_cnt] at hx2 ⊢
  exact ⟨p, select0_at words factor n total p hp hb hx2 hlen, hp,
    hb ▸ allBits_getElem? words p (hlen ▸ Nat.lt_trans hp (Nat.lt_mul_div_succ n (by decide))), rfl⟩

end CSD.RG
