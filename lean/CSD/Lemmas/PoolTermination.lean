import CSD.Lemmas.PoolSafety

/-! Every execution is finite: a potential `Phi` (remaining producer steps, tasks not yet taken, a rank per
worker) that every step of the program lowers and a spurious wake-up raises by 4. -/
namespace CSD.Pool

/-- More than a `notify_all` can cost: each of the `n` workers may go from `waiting` to `wake`, 4 up in rank. -/
def K (n : Nat) : Nat := 4 * n + 1

/-- Rank of a worker pc: every worker edge but `pop` and the dead `continue` lowers it, those that issue a
`notify_all` by `K`. -/
def loc (n : Nat) : WPc → Nat
  | .done => 0
  | .exitNotify => K n
  | .waiting => K n + 1
  | .sleep => K n + 2
  | .check => K n + 3
  | .pred => K n + 4
  | .wake => K n + 5
  | .lock => K n + 5
  | .loopEmpty => K n + 6
  | .loopStopped => K n + 7
  | .run _ => K n + 8
  | .unlocked _ => K n + 8 + K n

/-- Remaining steps of the producer's program: 3 per task, then `n + 4` for `stop` and `join`. Written
`n + 3 * … + c` so that "one step less" holds by unfolding along the `add` loop. -/
def prodSteps (n : Nat) : PPc → Nat
  | .addLock _ rest => n + 3 * rest.length + 7
  | .addPush _ rest => n + 3 * rest.length + 6
  | .addNotify rest => n + 3 * rest.length + 5
  | .stopLock => n + 4
  | .stopSet k => n - k + 3
  | .stopNotify => 2
  | .join => 1
  | .done => 0

/-- The `K` in a producer step pays for the `notify_all` it may issue; the `K + 6` in a task not yet taken
pays for the `K + 5` by which `pop` raises the rank of the worker (`check` to `unlocked`). -/
def Phi (s : State) : Nat :=
  K s.n * prodSteps s.n s.prod + (K s.n + 6) * (s.queue.length + s.prod.remaining.length) + sumW (loc s.n) s.wpc s.n

theorem prodSteps_nextAdd (n : Nat) (rest : List Nat) : prodSteps n (nextAdd rest) = 3 * rest.length + n + 4 := by
  cases rest with
  | nil => exact (Nat.zero_add _).symm
  | cons t r =>
    show n + 3 * r.length + 7 = 3 * (r.length + 1) + n + 4
    omega

theorem sumW_loc_notify (s : State) : sumW (loc s.n) (notifyAll s).wpc s.n ≤ sumW (loc s.n) s.wpc s.n + 4 * s.n := by
  refine sumW_le 4 s.n fun j _ => ?_
  simp only [notifyAll]
  split
  · rw [‹s.wpc j = .waiting›]
    exact Nat.le_refl _
  · exact Nat.le_add_right ..

namespace Phi
variable {s : State} {i : Nat} {p : WPc}

theorem move {v : WPc} (hi : i < s.n) (hpc : s.wpc i = p) {m : Option Tid} {r : List Nat}
    (hlt : loc s.n v < loc s.n p := by exact Nat.add_lt_add_left (by decide) _) :
    Phi { s with mutex := m, ran := r, wpc := upd s.wpc i v } < Phi s := by
  have := sumW_upd (f := loc s.n) hpc v s.n hi
  simp only [Phi]
  omega

theorem move_notify {v : WPc} (hi : i < s.n) (hpc : s.wpc i = p) (hlt : loc s.n v + K s.n ≤ loc s.n p) :
    Phi (notifyAll { s with wpc := upd s.wpc i v }) < Phi s := by
  have h1 := sumW_upd (f := loc s.n) hpc v s.n hi
  have h2 := sumW_loc_notify { s with wpc := upd s.wpc i v }
  simp only [Phi, notifyAll_n, notifyAll_prod, notifyAll_queue] at h2 ⊢
  unfold K at hlt
  omega

theorem pop {t : Nat} {q : List Nat} (hi : i < s.n) (hpc : s.wpc i = .check) (hq : s.queue = t :: q) :
    Phi { s with queue := q, mutex := none, wpc := upd s.wpc i (.unlocked t) } < Phi s := by
  have h1 := sumW_upd (f := loc s.n) hpc (.unlocked t) s.n hi
  simp only [loc] at h1
  simp only [Phi, hq, List.length_cons]
  -- split off the `K + 6` of the task taken: `omega` wants linear terms
  rw [Nat.add_right_comm q.length 1, Nat.mul_succ]
  omega

theorem spurious (hi : i < s.n) (hpc : s.wpc i = .waiting) : Phi { s with wpc := upd s.wpc i .wake } = Phi s + 4 := by
  have := sumW_upd (f := loc s.n) hpc .wake s.n hi
  simp only [Phi]
  simp only [loc] at this
  omega

-- on its own: inside `prod`, `omega` would read every hypothesis of the context
theorem drop {a a' b w w' n : Nat} (ha : a' + K n ≤ a) (hw : w' ≤ w + 4 * n) : a' + b + w' < a + b + w := by
  unfold K at ha
  omega

theorem prod {p : PPc} {s' : State} (hp : s.prod = p)
    (hsteps : prodSteps s.n s'.prod < prodSteps s.n p := by exact Nat.le_refl _)
    (htasks : s'.queue.length + s'.prod.remaining.length = s.queue.length + p.remaining.length := by rfl)
    (hw : sumW (loc s.n) s'.wpc s.n ≤ sumW (loc s.n) s.wpc s.n + 4 * s.n := by exact Nat.le_add_right ..)
    (hn : s'.n = s.n := by rfl) : Phi s' < Phi s := by
  unfold Phi
  rw [hn, hp, htasks]
  exact drop (Nat.mul_le_mul_left _ hsteps) hw

end Phi

theorem phi_step {tasks : List Nat} {s s' : State} {t : Tid} (h2 : Inv2 tasks s) (h : Step s t s') :
    match t with
    | .spurious _ => Phi s' = Phi s + 4
    | _ => Phi s' < Phi s := by
  -- rows: see before `Inv.move`
  induction h with
  | loopStopped_set hi hpc _ | loopStopped_clear hi hpc _ | loopEmpty_go hi hpc _ | lock hi hpc _ | wake hi hpc _
  | pred_true hi hpc _ | pred_false hi hpc _ _ | sleep hi hpc | run hi hpc => exact Phi.move hi hpc
  | loopEmpty_exit hi hpc _ | check_exit hi hpc _ _ => exact Phi.move hi hpc (Nat.lt_add_of_pos_right (by decide))
  -- the one edge that would raise the potential is never taken
  | check_continue hi hpc hst hq =>
    exact (h2.checkTrue _ hi hpc).elim (fun h => nomatch hst.symm.trans h) (absurd hq)
  | check_pop hi hpc hq => exact Phi.pop hi hpc hq
  | unlocked hi hpc => exact Phi.move_notify hi hpc (Nat.le_refl _)
  | exitNotify hi hpc => exact Phi.move_notify hi hpc (Nat.le_of_eq (Nat.zero_add _))
  | spurious hi hpc => exact Phi.spurious hi hpc
  | addLock hp _ | stopLock hp _ | join hp _ => exact Phi.prod hp
  | addPush hp =>
    refine Phi.prod hp (htasks := ?_)
    rw [List.length_append]
    exact Nat.add_right_comm ..
  | @addNotify r hp =>
    refine Phi.prod hp ?_ (congrArg (s.queue.length + List.length ·) (remaining_nextAdd r)) (sumW_loc_notify _)
    cases r <;> exact Nat.le_refl _
  | stopSet_lt hp hk => exact Phi.prod hp (Nat.add_lt_add_right (Nat.sub_succ_lt_self _ _ hk) 3)
  | stopSet_ge hp _ => exact Phi.prod hp (Nat.le_add_left 3 _)
  | stopNotify hp => exact Phi.prod hp (hw := sumW_loc_notify _)

/-- Steps of the program / of the environment (spurious wake-ups) in a schedule. -/
def progSteps : List Tid → Nat
  | [] => 0
  | .spurious _ :: ts => progSteps ts
  | _ :: ts => progSteps ts + 1

def spurSteps : List Tid → Nat
  | [] => 0
  | .spurious _ :: ts => spurSteps ts + 1
  | _ :: ts => spurSteps ts

theorem run_potential {n : Nat} {tasks : List Nat} : ∀ (sched : List Tid) (s0 s : State), Reachable n tasks s0 →
    runSched step s0 sched = some s → progSteps sched + Phi s ≤ Phi s0 + 4 * spurSteps sched
  | [], s0, s, _, h => by
    cases h
    exact Nat.le_of_eq (Nat.zero_add _)
  | t :: ts, s0, s, hr, h => by
    simp only [runSched] at h
    split at h
    · rename_i s1 hs
      have ih := run_potential ts s1 s (.step hr hs) h
      have := phi_step (inv2_reachable hr) (.of_step hs)
      cases t
      all_goals
        simp only [progSteps, spurSteps] at this ⊢
        omega
    · cases h

theorem phi_init (n : Nat) (tasks : List Nat) :
    Phi (init n tasks) = K n * (3 * tasks.length + n + 4) + (K n + 6) * tasks.length + n * (K n + 7) := by
  simp only [Phi, init, prodSteps_nextAdd, remaining_nextAdd, sumW_const, loc, List.length_nil, Nat.zero_add]

/-- **Every execution is finite**: whatever the schedule, the program performs at most
`(4n+1)(3T+n+4) + (4n+7)T + n(4n+8)` steps (`T` tasks) and 4 more for each spurious wake-up. -/
theorem bounded_run (n : Nat) (tasks : List Nat) (sched : List Tid) (s : State)
    (h : runSched step (init n tasks) sched = some s) :
    progSteps sched ≤ K n * (3 * tasks.length + n + 4) + (K n + 6) * tasks.length + n * (K n + 7) + 4 * spurSteps sched :=
  Nat.le_trans (Nat.le_add_right ..) (phi_init n tasks ▸ run_potential sched (init n tasks) s .init h)

/-- **A run that cannot be extended has finished the job**: the producer has returned from `wait_workers`
and every task has run as often as it was submitted. -/
theorem maximal_run_is_complete (n : Nat) (hn : 0 < n) (tasks : List Nat) (sched : List Tid) (s : State)
    (h : runSched step (init n tasks) sched = some s) (hstuck : Stuck step s) :
    s.prod = .done ∧ ∀ x, s.ran.count x = tasks.count x := by
  have hr := reachable_of_run sched (init n tasks) s .init h
  have hd : s.prod = .done := Decidable.byContradiction fun hnd => no_deadlock hr hnd hstuck
  exact ⟨hd, exactly_once_at_termination hn hr hd⟩

end CSD.Pool
