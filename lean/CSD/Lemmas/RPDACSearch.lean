import CSD.Model.RPDAC
import CSD.Lemmas.BinSearch

/-! The binary searches of `locate` and `locatePrefix` over a sign-monotone `f` on the IDs `1 … n`: the first finds
a zero, the other two the ends of the interval of zeros around it. While the fuel lasts `findAny` is `Search.first`
without the last probe, but a bridge would cost more than the induction of `findAny_spec` it replaced. -/
namespace CSD.RPDAC
open CSD.Search

theorem locateLoop_eq_findAny (cmp : Nat → Option Int) (fuel : Nat) : ∀ (left right : Nat),
    locateLoop cmp fuel left right =
      (findAny cmp fuel left right).map fun o => match o with | none => 0 | some (c, _, _) => c := by
  induction fuel with
  | zero => exact fun _ _ => rfl
  | succ fuel ih =>
    intro left right
    unfold locateLoop findAny
    simp only
    -- `map` pushed into the branches: the recursive calls are `ih`
    cases cmp ((left + right) / 2) with
    | none =>
      simp only [apply_ite (Option.map _)]
      rfl
    | some c =>
      simp only [apply_ite (Option.map _), ← ih]
      rfl

/-- The body of `locatePrefix` over an abstract comparison of the IDs `1 … n`; the `show` in
`locatePrefix_represents` keeps the two in step. -/
def prefixRange (cmp : Nat → Option Int) (n : Nat) : Option (Nat × Nat) :=
  match findAny cmp (n + 1) 1 n with
  | none => none
  | some none => some (0, 0)
  | some (some (center, left, right)) =>
    let l := if center > 1 then
        match leftLoop cmp (n + 1) left (center - 1) with
        | none => none
        | some lr => some (if lr > 0 then lr + 1 else 1)
      else some center
    let r := if center < n then rightLoop cmp (n + 2) center (right + 1) else some center
    match l, r with
    | some l, some r => some (l, r)
    | _, _ => none

section
variable {n : Nat} {f : Nat → Int} (m : Mono n f) (cmp : Nat → Option Int)
  (hcmp : ∀ id, 1 ≤ id → id ≤ n → cmp id = some (f id))
include m hcmp

theorem findAny_spec : ∀ (fuel left right : Nat), Bracket n f left right → right + 1 - left < fuel →
    (findAny cmp fuel left right = some none ∧ ∀ id, 1 ≤ id → id ≤ n → f id ≠ 0) ∨
    (∃ c l r, findAny cmp fuel left right = some (some (c, l, r)) ∧ l ≤ c ∧ c ≤ r ∧ f c = 0 ∧ Bracket n f l r) := by
  intro fuel
  induction fuel with
  | zero => exact fun _ _ _ hf => absurd hf (Nat.not_lt_zero _)
  | succ fuel ih =>
    intro left right b hf
    by_cases hle : left ≤ right
    · have hc := b.mid hle
      have hm := mid_bounds hle
      have hs := shrink b.one_le hm.1 hm.2 hf
      simp only [findAny, if_pos hle, hcmp _ hc.1 hc.2]
      generalize (left + right) / 2 = c at hc hm hs ⊢
      by_cases hpos : f c > 0
      · rw [if_pos hpos]
        exact ih _ _ (b.goLeft m hc.1 hm.2 hpos) hs.1
      · rw [if_neg hpos]
        by_cases hneg : f c < 0
        · rw [if_pos hneg]
          exact ih _ _ (b.goRight m hc.2 hneg) hs.2
        · rw [if_neg hneg]
          exact Or.inr ⟨c, left, right, rfl, hm.1, hm.2, Int.le_antisymm (Int.not_lt.mp hpos) (Int.not_lt.mp hneg), b⟩
    · rw [findAny, if_neg hle]
      exact Or.inl ⟨rfl, b.empty_ne (Nat.lt_of_not_le hle)⟩

theorem locateLoop_zero (fuel left right : Nat) (b : Bracket n f left right) (hf : right + 1 - left < fuel) :
    (locateLoop cmp fuel left right = some 0 ∧ ∀ id, 1 ≤ id → id ≤ n → f id ≠ 0) ∨
    (∃ c, locateLoop cmp fuel left right = some c ∧ 1 ≤ c ∧ c ≤ n ∧ f c = 0) := by
  rw [locateLoop_eq_findAny]
  rcases findAny_spec m cmp hcmp fuel left right b hf with ⟨h, hz⟩ | ⟨c, l, r, h, hlc, hcr, hz, b'⟩
  · exact Or.inl ⟨by rw [h]; rfl, hz⟩
  · exact Or.inr ⟨c, by rw [h]; rfl, Nat.le_trans b'.one_le hlc, Nat.le_trans hcr b'.le_n, hz⟩

/-- `res` is the last negative ID, 0 if there is none. -/
theorem leftLoop_spec (c : Nat) (hcn : c ≤ n) (hcz : f c = 0) :
    ∀ (fuel ll lr : Nat), 1 ≤ ll → lr + 1 ≤ c → lr + 1 - ll < fuel →
    (∀ id, 1 ≤ id → id < ll → f id < 0) → (∀ id, lr < id → id ≤ c → f id = 0) →
    ∃ res, leftLoop cmp fuel ll lr = some res ∧ res + 1 ≤ c ∧ (∀ id, res < id → id ≤ c → f id = 0) ∧
      (∀ id, 1 ≤ id → id ≤ res → f id < 0) := by
  intro fuel
  induction fuel with
  | zero => exact fun _ _ _ _ hf => absurd hf (Nat.not_lt_zero _)
  | succ fuel ih =>
    intro ll lr hll hlr hf hlow hzero
    by_cases hle : ll ≤ lr
    · have hm := mid_bounds hle
      have hs := shrink hll hm.1 hm.2 hf
      simp only [leftLoop, if_pos hle]
      generalize (ll + lr) / 2 = lc at hm hs ⊢
      have h1 : 1 ≤ lc := Nat.le_trans hll hm.1
      have hlc : lc + 1 ≤ c := Nat.le_trans (Nat.succ_le_succ hm.2) hlr
      have hn : lc ≤ n := Nat.le_trans (Nat.le_of_succ_le hlc) hcn
      simp only [hcmp lc h1 hn]
      by_cases hz : f lc = 0
      · rw [if_pos hz]
        exact ih ll (lc - 1) hll (Nat.lt_of_le_of_lt (Nat.sub_le lc 1) hlc) hs.1 hlow
          fun id h1' h2 => m.zero_between lc id c h1 (Nat.le_of_pred_lt h1') h2 hcn hz hcz
      · rw [if_neg hz]
        have hneg := m.neg_of_ne h1 (Nat.le_of_succ_le hlc) hcn hcz hz
        exact ih (lc + 1) lr (Nat.le_add_left 1 lc) hlr hs.2
          (fun id h1' h2 => m.neg_le h1' (Nat.le_of_lt_succ h2) hn hneg) hzero
    · rw [leftLoop, if_neg hle]
      exact ⟨lr, rfl, hlr, hzero, fun id h1 h2 => hlow id h1 (Nat.lt_of_le_of_lt h2 (Nat.lt_of_not_le hle))⟩

/-- The returned `rl` is the last zero. -/
theorem rightLoop_spec (c : Nat) (hc1 : 1 ≤ c) (hcz : f c = 0) :
    ∀ (fuel rl rr : Nat), c ≤ rl → rl < rr → rr ≤ n + 1 → rr - rl < fuel →
    (∀ id, c ≤ id → id ≤ rl → f id = 0) → (∀ id, rr ≤ id → id ≤ n → f id > 0) →
    ∃ res, rightLoop cmp fuel rl rr = some res ∧ c ≤ res ∧ res ≤ n ∧ (∀ id, c ≤ id → id ≤ res → f id = 0) ∧
      (∀ id, res < id → id ≤ n → f id > 0) := by
  intro fuel
  induction fuel with
  | zero => exact fun _ _ _ _ _ hf => absurd hf (Nat.not_lt_zero _)
  | succ fuel ih =>
    intro rl rr hrl hlt hrr hf hzero hhigh
    by_cases hgo : rl < rr - 1
    · have hm := mid_strict hgo
      have hs := shrink' hm.1 hm.2 hf
      simp only [rightLoop, if_pos hgo]
      generalize (rl + rr) / 2 = rc at hm hs ⊢
      have hc : c ≤ rc := Nat.le_trans hrl (Nat.le_of_lt hm.1)
      have hn : rc ≤ n := Nat.le_of_lt_succ (Nat.lt_of_lt_of_le hm.2 hrr)
      simp only [hcmp rc (Nat.le_trans hc1 hc) hn]
      by_cases hz : f rc = 0
      · rw [if_pos hz]
        exact ih rc rr hc hm.2 hrr hs.1 (fun id h1 h2 => m.zero_between c id rc hc1 h1 h2 hn hcz hz) hhigh
      · rw [if_neg hz]
        have hpos := m.pos_of_ne hc1 hc hn hcz hz
        exact ih rl rc hrl hm.1 (Nat.le_succ_of_le hn) hs.2 hzero
          fun id h1 h2 => m.pos_le (Nat.le_trans hc1 hc) h1 h2 hpos
    · rw [rightLoop, if_neg hgo]
      exact ⟨rl, rfl, hrl, Nat.le_of_lt_succ (Nat.lt_of_lt_of_le hlt hrr), hzero,
        fun id h1 h2 => hhigh id (Nat.le_trans (Nat.le_add_of_sub_le (Nat.le_of_not_lt hgo)) h1) h2⟩

/-- Both boundary loops, started as `locatePrefix` and `locateBoundaryBuckets` start them from a zero `c` in `l … r`.
In order: the left loop's result `lr`, the right loop's `R`, `lr < c`, `c ≤ R`, `R ≤ n`, `f` negative up to `lr`,
zero on `lr + 1 … R`, positive behind `R`. -/
theorem boundaries_spec {l r c : Nat} (b : Bracket n f l r) (hlc : l ≤ c) (hcr : c ≤ r) (hz : f c = 0) :
    ∃ lr R, leftLoop cmp (n + 1) l (c - 1) = some lr ∧ rightLoop cmp (n + 2) c (r + 1) = some R ∧
      lr + 1 ≤ c ∧ c ≤ R ∧ R ≤ n ∧ (∀ id, 1 ≤ id → id ≤ lr → f id < 0) ∧
      (∀ id, lr < id → id ≤ R → f id = 0) ∧ (∀ id, R < id → id ≤ n → f id > 0) := by
  have hrn := b.le_n
  have hc1 : 1 ≤ c := Nat.le_trans b.one_le hlc
  have hcn : c ≤ n := Nat.le_trans hcr hrn
  have hcc : ∀ id, c ≤ id → id ≤ c → f id = 0 := fun id h1 h2 => Nat.le_antisymm h2 h1 ▸ hz
  have hpred : c - 1 + 1 = c := Nat.sub_add_cancel hc1
  obtain ⟨lr, hL, hlc', hlz, hln⟩ := leftLoop_spec m cmp hcmp c hcn hz (n + 1) l (c - 1) b.one_le (Nat.le_of_eq hpred)
    (by rw [hpred]; exact Nat.lt_succ_of_le (Nat.le_trans (Nat.sub_le c l) hcn))
    (fun id h1 h2 => b.below id h1 h2 (Nat.le_trans (Nat.le_of_lt h2) (Nat.le_trans hlc hcn)))
    (fun id h1 h2 => hcc id (Nat.le_of_pred_lt h1) h2)
  obtain ⟨R, hR, hcR, hRn, hrz, hrp⟩ := rightLoop_spec m cmp hcmp c hc1 hz (n + 2) c (r + 1) (Nat.le_refl _)
    (Nat.lt_succ_of_le hcr) (Nat.succ_le_succ hrn)
    (Nat.lt_succ_of_le (Nat.le_trans (Nat.sub_le _ c) (Nat.succ_le_succ hrn))) hcc b.above
  exact ⟨lr, R, hL, hR, hlc', hcR, hRn, hln,
    fun id ha hb => (Nat.le_total id c).elim (hlz id ha) (fun h => hrz id h hb), hrp⟩

theorem prefixRange_spec : ∃ lo hi, prefixRange cmp n = some (lo, hi) ∧
    ((lo = 0 ∧ hi = 0 ∧ ∀ id, 1 ≤ id → id ≤ n → f id ≠ 0) ∨
     (1 ≤ lo ∧ lo ≤ hi ∧ hi ≤ n ∧ ∀ id, 1 ≤ id → id ≤ n → (f id = 0 ↔ lo ≤ id ∧ id ≤ hi))) := by
  unfold prefixRange
  rcases findAny_spec m cmp hcmp (n + 1) 1 n (Bracket.init n f) (Nat.lt_succ_self n) with
    ⟨h, hnz⟩ | ⟨c, l, r, h, hlc, hcr, hz, b⟩
  · rw [h]
    exact ⟨0, 0, rfl, Or.inl ⟨rfl, rfl, hnz⟩⟩
  · obtain ⟨lr, R, hL, hR, hlc', hcR, hRn, hln, hzz, hrp⟩ := boundaries_spec m cmp hcmp b hlc hcr hz
    -- each guard only skips a search whose answer is known anyway: `lr = 0` if `c = 1`, `R = n` if `c = n`
    have hl : (if c > 1 then
          match leftLoop cmp (n + 1) l (c - 1) with
          | none => none
          | some lr => some (if lr > 0 then lr + 1 else 1)
        else some c) = some (lr + 1) := by
      by_cases hc : c > 1
      · rw [if_pos hc, hL]
        exact congrArg some (by cases lr <;> rfl)
      · rw [if_neg hc]
        exact congrArg some (Nat.le_antisymm (Nat.le_trans (Nat.le_of_not_lt hc) (Nat.le_add_left 1 lr)) hlc')
    have hr : (if c < n then rightLoop cmp (n + 2) c (r + 1) else some c) = some R := by
      by_cases hc : c < n
      · rw [if_pos hc, hR]
      · rw [if_neg hc]
        exact congrArg some (Nat.le_antisymm hcR (Nat.le_trans hRn (Nat.le_of_not_lt hc)))
    rw [h]
    simp only
    rw [hl, hr]
    refine ⟨lr + 1, R, rfl, Or.inr ⟨Nat.le_add_left 1 lr, Nat.le_trans hlc' hcR, hRn, fun id h1 h2 =>
      ⟨fun hz' => ⟨?_, ?_⟩, fun ⟨ha, hb⟩ => hzz id ha hb⟩⟩⟩
    · exact Nat.le_of_not_lt fun h' => Int.ne_of_lt (hln id h1 (Nat.le_of_lt_succ h')) hz'
    · exact Nat.le_of_not_lt fun h' => Int.ne_of_gt (hrp id h' h2) hz'

end

end CSD.RPDAC
