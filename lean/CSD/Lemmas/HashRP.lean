import CSD.Lemmas.HashSearch
import CSD.Model.HashRP
import CSD.Lemmas.RPDACStrcmp

/-! The lookups of HASHRPDAC and HASHRPF compare the string of a cell through the grammar (`extractStringAndCompareDAC`
at the cell's rank, `extractStringAndCompareRP` from the cell's offset). A probe loop whose comparison answers 0 exactly
on the stored string is the table-level `locate`; both are instances. -/
namespace CSD.Hash
open CSD CSD.RePair CSD.PFC CSD.RPDAC

/-- The DAC holds, at position `id`, a symbol sequence expanding to the string with ID `id`. `RPDAC.bytesNat` is
`natBytes` (and `RPFC.natsOf`, `FM.symsOf`): one function under four names. -/
structure StoresRP (d : HDict) (g : Grammar) (seqs : List (List Nat)) : Prop where
  wf : g.wf = true
  len : seqs.length = d.S.length
  valid : ∀ syms ∈ seqs, ∀ s ∈ syms, s < g.terminals + g.rules.length
  exp : ∀ id (h1 : 1 ≤ id) (h2 : id - 1 < seqs.length) (w : Str), extract d id = some w →
    g.expand seqs[id - 1] = RPDAC.bytesNat w

/-- `cmp cell`: `none` = a read out of bounds, `some 0` = the cell's string is the query. -/
def lfCmp (d : HDict) (cmp : Nat → Option Int) (q : Str) (i : Nat) : Option (Option Nat) :=
  match d.table.getD (pr d.tsize q i) none with
  | none => some (some 0)
  | some _ =>
    match cmp (pr d.tsize q i) with
    | none => some none
    | some c => if c = 0 then some (some (rankOcc d.table (pr d.tsize q i))) else none

def locateCmp (d : HDict) (cmp : Nat → Option Int) (q : Str) : Option Nat :=
  match (List.range d.tsize).findSome? (lfCmp d cmp q) with
  | none => some 0
  | some r => r

theorem locateCmp_eq (d : HDict) (cmp : Nat → Option Int) (q : Str)
    (h : ∀ cell k, d.table[cell]? = some (some k) → ∃ c, cmp cell = some c ∧ (c = 0 ↔ d.S.getD k [] = q)) :
    locateCmp d cmp q = some (locate d q) := by
  unfold locateCmp
  have hpt : lfCmp d cmp q = Option.map some ∘ lf d q := by
    funext i
    show lfCmp d cmp q i = (lf d q i).map some
    unfold lfCmp lf
    cases hc : d.table.getD (pr d.tsize q i) none with
    | none => rfl
    | some k =>
      obtain ⟨c, hc', hiff⟩ := h _ k (getD_eq_some hc)
      simp only [hc']
      by_cases heq : d.S.getD k [] = q
      · rw [if_pos (hiff.mpr heq), if_pos heq]; rfl
      · rw [if_neg (fun e => heq (hiff.mp e)), if_neg heq]; rfl
  rw [hpt, ← List.map_findSome?, locate_eq]
  cases (List.range d.tsize).findSome? (lf d q) <;> rfl

theorem locateRP_eq {d : HDict} (gd : GoodDict d) (hS : ∀ s ∈ d.S, nulFree s) (g : Grammar)
    (seqs : List (List Nat)) (st : StoresRP d g seqs) (q : Str) (hq : nulFree q) :
    locateRP d g seqs q = some (locate d q) := by
  have hlf : lfRP d g seqs q = lfCmp d (fun cell => seqs[rankOcc d.table cell - 1]?.bind
      fun syms => compareDAC g syms (natBytes q)) q := by
    funext i
    unfold lfRP lfCmp pr
    generalize probe (bitwisehash q d.tsize) (stepValue q d.tsize) d.tsize i = cell
    cases d.table.getD cell none with
    | none => rfl
    | some k =>
      dsimp only
      cases seqs[rankOcc d.table cell - 1]? <;> rfl
  unfold locateRP
  rw [hlf]
  apply locateCmp_eq
  intro cell k hcell
  obtain ⟨hkn, _⟩ := gd.good.stored _ k hcell
  obtain ⟨hr1, hrle, hex⟩ := extract_rank gd hcell
  have hpos : rankOcc d.table cell - 1 < seqs.length :=
    st.len ▸ Nat.lt_of_lt_of_le (Nat.sub_lt hr1 Nat.one_pos) hrle
  have hk : d.S.getD k [] = d.S[k] := (List.getElem_eq_getD []).symm
  have hSk := hS _ (List.getElem_mem hkn)
  rw [List.getElem?_eq_getElem hkn] at hex
  refine ⟨scmp d.S[k] q, ?_, by rw [hk]; exact scmp_eq_zero hSk hq⟩
  rw [List.getElem?_eq_getElem hpos, Option.bind_some]
  exact compareDAC_eq g st.wf _ (st.valid _ (List.getElem_mem hpos)) d.S[k] q (st.exp _ hr1 hpos _ hex) hSk hq

theorem cmpList_cons_eq (buf : List Nat) (xs : List Nat) (pos : Nat) (h : pos < buf.length) :
    cmpList buf (buf[pos] :: xs) pos = cmpList buf xs (pos + 1) := by
  rw [← cmpK_never, ← cmpK_never]
  exact cmpK_cons_eq Out.pair never buf (List.getElem?_eq_getElem h) xs _

theorem cmpList_cons_ne (buf : List Nat) (x : Nat) (xs : List Nat) (pos : Nat) (h : pos < buf.length)
    (hne : x ≠ buf[pos]) : cmpList buf (x :: xs) pos = some ((x : Int) - buf[pos], pos) := by
  rw [← cmpK_never]
  exact cmpK_cons_ne Out.pair never buf (List.getElem?_eq_getElem h) hne xs _

/-- The buffer ends inside `E` (a read out of bounds), or `E` is a prefix of the buffer's rest (0, position advanced),
or the two part at a mismatch and `E` is no such prefix. -/
theorem cmpList_cases (buf : List Nat) (E : List Nat) : ∀ (pos : Nat),
    (∃ t, t ≠ [] ∧ E = buf.drop pos ++ t ∧ cmpList buf E pos = none) ∨
    (∃ B, buf.drop pos = E ++ B ∧ cmpList buf E pos = some (0, pos + E.length)) ∨
    (∃ c p, c ≠ 0 ∧ cmpList buf E pos = some (c, p) ∧ ∀ t, E ++ t ≠ buf.drop pos) := by
  induction E with
  | nil => exact fun pos => .inr (.inl ⟨buf.drop pos, rfl, rfl⟩)
  | cons x xs ih =>
    intro pos
    rcases Nat.lt_or_ge pos buf.length with hlt | hge
    · rw [List.drop_eq_getElem_cons hlt]
      by_cases hne : x = buf[pos]
      · subst hne
        rw [cmpList_cons_eq buf xs pos hlt]
        rcases ih (pos + 1) with ⟨t, ht, e, h⟩ | ⟨B, e, h⟩ | ⟨c, p, hc, h, hd⟩
        · exact .inl ⟨t, ht, congrArg (_ :: ·) e, h⟩
        · exact .inr (.inl ⟨B, congrArg (_ :: ·) e, by rw [h, List.length_cons, Nat.add_assoc, Nat.add_comm 1]⟩)
        · exact .inr (.inr ⟨c, p, hc, h, fun t e => hd t (List.cons.inj e).2⟩)
      · rw [cmpList_cons_ne buf x xs pos hlt hne]
        exact .inr (.inr ⟨_, _, fun h => hne (Int.ofNat_inj.mp (Int.sub_eq_zero.mp h)), rfl,
          fun t e => hne (List.cons.inj e).1⟩)
    · rw [List.drop_eq_nil_iff.mpr hge]
      exact .inl ⟨x :: xs, List.cons_ne_nil _ _, rfl, by simp only [cmpList, cmpTerm, List.getElem?_eq_none hge]⟩

/-- The two `∀ t` hypotheses: neither the expansion of `syms` nor the rest of the buffer is a proper prefix of the
other. They pass to the remainders behind a matched symbol, which a terminator inside the induction would not. -/
theorem cmpStream_spec (g : Grammar) (hwf : g.wf = true) (buf : List Nat) (strLen : Nat)
    (hbuf : buf.length = strLen + 1) (rest : List Nat) (syms : List Nat) :
    ∀ (pos fuel : Nat), (∀ x ∈ syms, x < g.terminals + g.rules.length) →
      (∀ t, g.expand syms = buf.drop pos ++ t → t = []) → (∀ t, buf.drop pos = g.expand syms ++ t → t = []) →
      strLen + 1 - pos < fuel →
      ∃ c, cmpStream g buf strLen fuel (syms ++ rest) pos = some c ∧ (c = 0 ↔ g.expand syms = buf.drop pos) := by
  induction syms with
  | nil =>
    intro pos fuel _ _ hB hf
    obtain ⟨fuel, rfl⟩ := Nat.exists_eq_add_one_of_ne_zero (Nat.ne_of_gt (Nat.zero_lt_of_lt hf))
    -- nothing is stored any more, so nothing is left of the buffer: the loop's guard fails
    have hnil : buf.drop pos = [] := hB _ rfl
    have hle : strLen + 1 ≤ pos := hbuf ▸ List.drop_eq_nil_iff.mp hnil
    unfold cmpStream
    exact ⟨0, if_neg fun h => Nat.not_succ_le_self _ (Nat.le_trans hle h), iff_of_true rfl hnil.symm⟩
  | cons x xs ih =>
    intro pos fuel hv hA hB hf
    obtain ⟨fuel, rfl⟩ := Nat.exists_eq_add_one_of_ne_zero (Nat.ne_of_gt (Nat.zero_lt_of_lt hf))
    have hx := hv x List.mem_cons_self
    have hne := expandSym_ne_nil g hwf x hx
    rw [expand_cons] at hA hB ⊢
    have hpos : pos ≤ strLen := Nat.le_of_not_lt fun h => by
      rw [List.drop_eq_nil_iff.mpr (hbuf ▸ h)] at hA
      exact hne (List.append_eq_nil_iff.mp (hA _ rfl)).1
    have hsym : (if x ≥ g.terminals then cmpRule g buf (g.rules.length + 1) (x - g.terminals) pos
        else cmpTerm buf x pos) = cmpList buf (g.expandSym x) pos :=
      cmpSym_cmpRule g hwf buf x hx (g.rules.length + 1) (Nat.lt_succ_of_lt hx) pos
    rw [List.cons_append, cmpStream, if_pos hpos, hsym]
    rcases cmpList_cases buf (g.expandSym x) pos with ⟨t, ht, e, _⟩ | ⟨B, e, h⟩ | ⟨c, p, hc, h, hd⟩
    · -- the buffer cannot end inside the symbol
      have := hA (t ++ g.expand xs) (by rw [e, List.append_assoc])
      exact absurd (List.append_eq_nil_iff.mp this).1 ht
    · rw [h]
      simp only [ne_eq, not_true_eq_false, ↓reduceIte]
      have hdrop : buf.drop (pos + (g.expandSym x).length) = B := by
        rw [← List.drop_drop, e, List.drop_left]
      have hfuel : strLen + 1 - (pos + (g.expandSym x).length) < fuel := by
        rw [Nat.sub_add_eq]
        exact Nat.lt_of_lt_of_le (Nat.sub_lt (Nat.sub_pos_of_lt (Nat.lt_succ_of_le hpos))
          (List.length_pos_iff.mpr hne)) (Nat.le_of_lt_succ hf)
      obtain ⟨c, hcs, hiff⟩ := ih (pos + (g.expandSym x).length) fuel
        (fun y hy => hv y (List.mem_cons_of_mem _ hy))
        (fun t ht => hA t (by rw [e, ht, hdrop, List.append_assoc]))
        (fun t ht => hB t (by rw [e, ← hdrop, ht, List.append_assoc])) hfuel
      exact ⟨c, hcs, by rw [hiff, hdrop, e]; exact (List.append_right_inj _).symm⟩
    · rw [h]
      simp only [ne_eq, hc, not_false_eq_true, ↓reduceIte]
      exact ⟨c, rfl, fun h0 => absurd h0 hc, fun hab => absurd hab (hd _)⟩

theorem natBytes_inj {s q : Str} (h : natBytes s = natBytes q) : s = q :=
  (List.map_inj_right fun _ _ => UInt8.toNat_inj.mp).mp h

/-- `extractStringAndCompareRP` returns 0 exactly for the stored string itself. -/
theorem compareRP_spec (g : Grammar) (hwf : g.wf = true) (T : Nat) (syms rest : List Nat)
    (hv : ∀ x ∈ syms, x < g.terminals + g.rules.length) (s q : Str)
    (hexp : g.expand syms = natBytes s ++ [T]) (hTs : T ∉ natBytes s) :
    ∃ c, compareRP g T (syms ++ rest) (natBytes q) = some c ∧ (c = 0 ↔ s = q) := by
  unfold compareRP
  have hany : (natBytes q).any (· == T) = true ↔ T ∈ natBytes q := by rw [List.any_beq', List.contains_iff_mem]
  by_cases hTq : T ∈ natBytes q
  · rw [if_pos (hany.mpr hTq)]
    exact ⟨1, rfl, fun h => absurd h Int.one_ne_zero, fun h => absurd (h ▸ hTq) hTs⟩
  · rw [if_neg (mt hany.mp hTq)]
    obtain ⟨c, hc, hiff⟩ := cmpStream_spec g hwf (natBytes q ++ [T]) (natBytes q).length (List.length_append ..)
      rest syms 0 ((natBytes q).length + 2) hv (by rw [hexp]; exact fun t h => (ListIdx.mark_unique h.symm hTs).2)
      (by rw [hexp]; exact fun t h => (ListIdx.mark_unique h.symm hTq).2) (Nat.lt_succ_self _)
    refine ⟨c, hc, ?_⟩
    rw [hiff, hexp, List.drop_zero, List.append_left_inj]
    exact ⟨natBytes_inj, congrArg natBytes⟩

/-- From the offset stored in an occupied cell on, the sequence holds symbols expanding to that cell's string
followed by the terminator `T`, which occurs in no string. -/
structure StoresRPF (d : HDict) (g : Grammar) (T : Nat) (cls : List Nat) (offs : Nat → Nat) : Prop where
  wf : g.wf = true
  noT : ∀ s ∈ d.S, T ∉ natBytes s
  cellAt : ∀ cell k, d.table[cell]? = some (some k) → ∀ (hk : k < d.S.length),
    ∃ syms rest, cls.drop (offs cell) = syms ++ rest ∧ (∀ x ∈ syms, x < g.terminals + g.rules.length) ∧
      g.expand syms = natBytes d.S[k] ++ [T]

theorem locateRPF_eq {d : HDict} (gd : GoodDict d) (g : Grammar) (T : Nat) (cls : List Nat) (offs : Nat → Nat)
    (st : StoresRPF d g T cls offs) (q : Str) :
    locateRPF d g T cls offs q = some (locate d q) := by
  refine locateCmp_eq d (fun cell => compareRP g T (cls.drop (offs cell)) (natBytes q)) q fun cell k hcell => ?_
  obtain ⟨hkn, _⟩ := gd.good.stored _ k hcell
  obtain ⟨syms, rest, hdrop, hval, hexp⟩ := st.cellAt _ k hcell hkn
  have hk : d.S.getD k [] = d.S[k] := (List.getElem_eq_getD []).symm
  rw [hdrop, hk]
  exact compareRP_spec g st.wf T syms rest hval d.S[k] q hexp (st.noT _ (List.getElem_mem hkn))

end CSD.Hash
