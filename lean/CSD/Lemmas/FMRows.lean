import CSD.Model.FM

/-! The rows of a text, one per suffix with the symbol in front of it: which there are, how many have a suffix
satisfying `f`, and `count_shift`, the fact behind the LF mapping. -/
namespace CSD.FM

theorem mem_rowsFrom {o : Option Sym} {s : List Sym} : ∀ {T : List Sym} {p : Option Sym},
    (o, s) ∈ rowsFrom p T ↔ (o = p ∧ s = T) ∨ ∃ c, o = some c ∧ c :: s <:+ T
  | [], p => by simp [rowsFrom]
  | x :: T, p => by
    rw [rowsFrom, List.mem_cons, mem_rowsFrom (T := T), Prod.mk.injEq]
    simp only [List.suffix_cons_iff, List.cons.injEq]
    constructor
    · rintro (h | ⟨rfl, rfl⟩ | ⟨c, rfl, h⟩)
      · exact Or.inl h
      · exact Or.inr ⟨x, rfl, Or.inl ⟨rfl, rfl⟩⟩
      · exact Or.inr ⟨c, rfl, Or.inr h⟩
    · rintro (h | ⟨c, rfl, ⟨rfl, rfl⟩ | h⟩)
      · exact Or.inl h
      · exact Or.inr (Or.inl ⟨rfl, rfl⟩)
      · exact Or.inr (Or.inr ⟨c, rfl, h⟩)

theorem IsSA.some_mem {T : List Sym} {L : List Row} (hSA : IsSA T L) {c : Sym} {s : List Sym} :
    (some c, s) ∈ L ↔ c :: s <:+ T := by
  simp [hSA.1.mem_iff, rows, mem_rowsFrom]

theorem IsSA.exists_mem {T : List Sym} {L : List Row} (hSA : IsSA T L) {s : List Sym} :
    (∃ o, (o, s) ∈ L) ↔ s <:+ T := by
  simp only [hSA.1.mem_iff, rows, mem_rowsFrom]
  constructor
  · rintro ⟨o, ⟨_, rfl⟩ | ⟨c, _, h⟩⟩
    · exact List.suffix_rfl
    · exact (List.suffix_cons c s).trans h
  · rintro ⟨A, rfl⟩
    rcases List.eq_nil_or_concat A with rfl | ⟨A, c, rfl⟩
    · exact ⟨none, Or.inl ⟨rfl, rfl⟩⟩
    · exact ⟨some c, Or.inr ⟨c, rfl, A, by simp⟩⟩

theorem length_le_of_mem_rowsFrom {r : Row} {p : Option Sym} {T : List Sym} (h : r ∈ rowsFrom p T) :
    r.2.length ≤ T.length := by
  rcases (mem_rowsFrom (o := r.1) (s := r.2)).mp h with ⟨_, e⟩ | ⟨c, _, hs⟩
  · exact Nat.le_of_eq (congrArg List.length e)
  · exact Nat.le_of_succ_le hs.length_le

theorem rowsFrom_pairwise_ne : ∀ (T : List Sym) (p : Option Sym),
    (rowsFrom p T).Pairwise (fun a b => a.2 ≠ b.2)
  | [], p => by simp [rowsFrom]
  | x :: T, p => by
    rw [rowsFrom, List.pairwise_cons]
    refine ⟨fun r hr he => ?_, rowsFrom_pairwise_ne T (some x)⟩
    have := length_le_of_mem_rowsFrom hr
    rw [← he] at this
    exact Nat.not_succ_le_self _ this

theorem length_rowsFrom : ∀ (T : List Sym) (p : Option Sym), (rowsFrom p T).length = T.length + 1
  | [], _ => rfl
  | _ :: T, _ => congrArg (· + 1) (length_rowsFrom T _)

def b2n (b : Bool) : Nat := if b then 1 else 0

def sufCount (f : List Sym → Bool) : List Sym → Nat
  | [] => b2n (f [])
  | x :: t => b2n (f (x :: t)) + sufCount f t

theorem countP_rowsFrom (f : List Sym → Bool) : ∀ (X : List Sym) (p : Option Sym),
    (rowsFrom p X).countP (fun r => f r.2) = sufCount f X
  | [], p => by
    rw [rowsFrom, List.countP_cons, List.countP_nil, Nat.zero_add]
    rfl
  | x :: t, p => by
    rw [rowsFrom, List.countP_cons, countP_rowsFrom f t (some x), Nat.add_comm]
    rfl

def consP (c : Sym) (q : List Sym → Bool) : List Sym → Bool
  | x :: t => x == c && q t
  | [] => false

def precC (c : Sym) (q : List Sym → Bool) (r : Row) : Bool := r.1 == some c && q r.2

/-- The suffix `c :: t` and the suffix `t` preceded by `c` are the same place of the text. -/
theorem count_shift (c : Sym) (q : List Sym → Bool) : ∀ (T : List Sym) (p : Option Sym),
    (rowsFrom p T).countP (fun r => consP c q r.2) + b2n (precC c q (p, T)) = (rowsFrom p T).countP (precC c q)
  | [], p => by simp [rowsFrom, consP, b2n]
  | x :: T, p => by
    have ih := count_shift c q T (some x)
    have e : consP c q (x :: T) = precC c q (some x, T) := by simp [consP, precC]
    rw [rowsFrom, List.countP_cons, List.countP_cons, e, ← ih]
    -- `b2n b` is the `if` of `countP_cons`
    rfl

theorem count_shift_rows (c : Sym) (q : List Sym → Bool) (T : List Sym) :
    (rows T).countP (fun r => consP c q r.2) = (rows T).countP (precC c q) := by
  have := count_shift c q T none
  simpa [rows, precC, b2n] using this

end CSD.FM
