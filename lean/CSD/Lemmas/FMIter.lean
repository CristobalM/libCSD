import CSD.Lemmas.FMSubstr

/-! The string iterators of `StringDictionaryFMINDEX`: `IteratorDictStringFMINDEX` (`extractTable`, `extractPrefix`),
each `next` of which is `extract_id` at the row of the next ID, and `IteratorDictStringFMINDEXDuplicates`
(`extractSubstr`) over the sorted occurrence array. -/
namespace CSD.FM

theorem iterNext_spec {S : List Str} {L : List Row} {d : Dict} (hv : validDict S = true) (hd : DictOK S L d)
    (hml : ∀ s ∈ S, s.length < d.maxlength) (i : Nat) (hi : i < S.length) (sc : Nat) :
    d.iterNext { processed := i + 1, scanneable := sc, last := d.elements }
      = some (symsOf S[i], { processed := i + 2, scanneable := sc, last := d.elements }) := by
  rw [Dict.iterNext]
  simp only
  rw [extractId_row hv hd hml i hi]

/-- Draining a scan over the IDs `i + 1 … i + k` yields `S[i], …, S[i + k - 1]`. -/
theorem drain_spec {S : List Str} {L : List Row} {d : Dict} (hv : validDict S = true) (hd : DictOK S L d)
    (hml : ∀ s ∈ S, s.length < d.maxlength) : ∀ (k i fuel : Nat), i + k ≤ S.length → k ≤ fuel →
    d.drain fuel { processed := i + 1, scanneable := i + k + 1, last := d.elements }
      = some (((S.drop i).take k).map symsOf) := by
  intro k
  induction k with
  | zero =>
    intro i fuel _ _
    cases fuel with
    | zero => rfl
    | succ f => simp [Dict.drain, SIter.hasNext]
  | succ k ih =>
    intro i fuel hik hf
    obtain ⟨fuel, rfl⟩ := Nat.exists_eq_succ_of_ne_zero (Nat.ne_zero_of_lt hf)
    have hi : i < S.length := Nat.lt_of_lt_of_le (Nat.lt_add_of_pos_right (Nat.succ_pos k)) hik
    rw [← Nat.succ_add_eq_add_succ] at hik
    rw [Dict.drain, if_pos (by simp [SIter.hasNext]), iterNext_spec hv hd hml i hi]
    simp only
    rw [← Nat.succ_add_eq_add_succ i k, ih (i + 1) fuel hik (Nat.le_of_succ_le_succ hf),
      List.drop_eq_getElem_cons hi, List.take_succ_cons, List.map_cons]

/-- `StringDictionaryFMINDEX::extractTable`: all members, in ID order. -/
theorem extractTable_spec {S : List Str} {L : List Row} {d : Dict} (hv : validDict S = true) (hd : DictOK S L d)
    (hml : ∀ s ∈ S, s.length < d.maxlength) : d.extractTable = some (S.map symsOf) := by
  have := drain_spec hv hd hml S.length 0 d.elements (Nat.le_of_eq (Nat.zero_add _)) (Nat.le_of_eq hd.elements.symm)
  rw [List.drop_zero, List.take_length, Nat.zero_add S.length, ← hd.elements] at this
  exact this

/-- `extractPrefix`: `some none` (the NULL iterator) when no member starts with `p`; otherwise the iterator
drains to the slice of `S` that begins behind the `#{s < p}` members below `p` and is `#{p prefix of s}` members
long, in order. -/
theorem extractPrefix_spec {S : List Str} {L : List Row} {d : Dict} (hv : validDict S = true) (hd : DictOK S L d)
    (hml : ∀ s ∈ S, s.length < d.maxlength) (p : Str) (hp : p.all validByte = true) (hne : p ≠ []) :
    d.extractPrefix p =
      some (if S.countP (fun s => (symsOf p).isPrefixOf (symsOf s)) = 0 then none
            else some (((S.drop (S.countP (fun s => decide (symsOf s < symsOf p)))).take
                          (S.countP (fun s => (symsOf p).isPrefixOf (symsOf s)))).map symsOf)) := by
  rw [Dict.extractPrefix, show (1 :: symsOf p : List Sym) = prePat p from rfl, locateP_prePat hv hd p hp hne]
  generalize ha : S.countP (fun s => decide (symsOf s < symsOf p)) = a
  generalize hk : S.countP (fun s => (symsOf p).isPrefixOf (symsOf s)) = k
  have hle : a + k ≤ S.length := by
    rw [← ha, ← hk]
    exact countP_ltP_add_preP_le symsOf (symsOf p) S
  cases k with
  | zero => rfl
  | succ k =>
    have hfuel : a + (k + 1) + 1 - (a + 1) = k + 1 := by rw [Nat.add_right_comm, Nat.add_sub_cancel_left]
    rw [if_neg (Nat.succ_ne_zero k), if_neg (Nat.succ_ne_zero k)]
    simp only
    rw [hfuel, drain_spec hv hd hml (k + 1) a (k + 1) hle (Nat.le_refl _)]
    rfl

/-- The iterator drains to the strings of the distinct IDs of its array. -/
theorem drainIds_spec {S : List Str} {L : List Row} {d : Dict} (hv : validDict S = true) (hd : DictOK S L d)
    (hml : ∀ s ∈ S, s.length < d.maxlength) : ∀ (l : List Nat) (prev : Option Nat),
    (∀ x ∈ l, 1 ≤ x ∧ x ≤ S.length) →
    d.drainIds prev l = some ((dd prev l).map fun id => symsOf (S[id - 1]?.getD [])) := by
  intro l
  induction l with
  | nil => exact fun _ _ => rfl
  | cons x l ih =>
    intro prev h
    obtain ⟨h1, hi⟩ := h x List.mem_cons_self
    obtain ⟨i, rfl⟩ := Nat.exists_eq_add_one_of_ne_zero (Nat.ne_of_gt h1)
    have ih := ih (some (i + 1)) fun y hy => h y (List.mem_cons_of_mem _ hy)
    rw [Dict.drainIds, if_neg (Nat.succ_ne_zero i), dd]
    by_cases hp : prev = some (i + 1)
    · rw [if_pos hp, if_pos hp, hp, ih]
    · rw [if_neg hp, if_neg hp, extractId_row hv hd hml i hi, ih, List.map_cons, Nat.add_sub_cancel,
        List.getElem?_eq_getElem hi]
      rfl

/-- `StringDictionaryFMINDEX::extractSubstr`: NULL when no member contains the pattern; otherwise the strings of
`Spec.substrIds S p` — every member containing `p`, once, in ID order. -/
theorem extractSubstr_spec {S : List Str} {L : List Row} {d : Dict} (hv : validDict S = true) (hd : DictOK S L d)
    (hS : BuiltS (mkText S) L d.ix) (hml : ∀ s ∈ S, s.length < d.maxlength)
    (p : Str) (hp : p.all validByte = true) (hne : p ≠ []) :
    d.extractSubstr p =
      some (if Spec.substrIds S p = [] then none
            else some ((Spec.substrIds S p).map fun id => symsOf (S[id - 1]?.getD []))) := by
  rw [Dict.extractSubstr]
  rcases locateOccs_dict hv hd hS p hp hne with ⟨h1, h2⟩ | ⟨occs, h1, hmem, hne'⟩
  · rw [h1, h2]
    rfl
  · have hrange : ∀ x ∈ sortNat occs, 1 ≤ x ∧ x ≤ S.length := by
      intro x hx
      obtain ⟨i, hi, rfl, _⟩ := (mem_substrIds S p x).mp ((hmem x).mp ((mem_sortNat x occs).mp hx))
      exact ⟨Nat.succ_pos i, hi⟩
    rw [h1, if_neg hne']
    simp only
    rw [drainIds_spec hv hd hml (sortNat occs) none hrange, dd_none,
      dedup_sort_eq occs _ (sorted_ids (isSubstr p) S 1) hmem]
    rfl

end CSD.FM
