import CSD.Lemmas.HashBlocks

/-! The table scan of the blocks dictionary (`IteratorDictStringHRPDACBlocks`): part after part, local IDs `1 … size`,
it yields exactly `extract(1), …, extract(n)`, for every cut size and every table-size function. -/
namespace CSD.Hash
open CSD CSD.Blocks

section
variable (mk : List Str → HDict) (bs : List (List Str)) (p : Nat) (hp : p < bs.length)
include hp

theorem starts_getD : (starts 0 bs).getD p 0 = pre bs p := by
  rw [List.getD_eq_getElem?_getD, starts_getElem? bs 0 p hp, Option.getD_some, Nat.zero_add]

theorem toIndex_ofBlocks : toIndex (ofBlocks mk bs) p = pre bs (p + 1) := by
  unfold toIndex ofBlocks
  dsimp only
  rw [starts_length]
  split
  · rename_i h
    exact starts_getD bs (p + 1) (Nat.add_lt_of_lt_sub h)
  · rename_i h
    rw [show p + 1 = bs.length from Nat.le_antisymm hp (Nat.le_of_not_lt fun h' => h (Nat.lt_sub_of_add_lt h')),
      pre_length]

theorem toIndex_sub_ofBlocks :
    toIndex (ofBlocks mk bs) p - (ofBlocks mk bs).starts.getD p 0 = bs[p].length := by
  rw [toIndex_ofBlocks mk bs p hp, show (ofBlocks mk bs).starts = starts 0 bs from rfl, starts_getD bs p hp,
    pre_succ bs p hp, Nat.add_sub_cancel_left]

theorem bNext_ofBlocks (hne : ∀ b ∈ bs, b ≠ []) (c : Nat) (h1 : 1 ≤ c) (h2 : c ≤ bs[p].length) :
    bHasNext (ofBlocks mk bs) ⟨c, p⟩ = true ∧
    bNext (ofBlocks mk bs) ⟨c, p⟩ = some (extractBlocks (ofBlocks mk bs) (pre bs p + c),
      if c + 1 > bs[p].length then ⟨1, p + 1⟩ else ⟨c + 1, p⟩) := by
  have hsub := toIndex_sub_ofBlocks mk bs p hp
  have hparts : (ofBlocks mk bs).parts[p]? = some (mk bs[p]) := by
    simp only [ofBlocks, List.getElem?_map, List.getElem?_eq_getElem hp, Option.map_some]
  constructor
  · simp only [bHasNext, hsub, Bool.and_eq_true, decide_eq_true_eq]
    exact ⟨Nat.lt_of_lt_of_eq hp (List.length_map mk).symm, h2⟩
  · simp only [bNext, hparts, hsub, extractBlocks_local mk bs hne p hp c h1 h2]
    split <;> rfl

end

/-- The counter `i` runs up to `n` exclusive, `At i it` is the state before output `i`, `k` outputs are left. -/
theorem bDrain_steps (d : BDict) (out : Nat → Option Str) (n : Nat) (At : Nat → BIter → Prop)
    (hstep : ∀ i it, At i it → i < n →
      bHasNext d it = true ∧ ∃ it', bNext d it = some (out i, it') ∧ At (i + 1) it')
    (hend : ∀ it, At n it → bHasNext d it = false) (k : Nat) :
    ∀ (i fuel : Nat) (it : BIter), At i it → i + k = n → k ≤ fuel →
      bDrain d fuel it = some ((List.range' i k).map out) := by
  induction k with
  | zero =>
    intro i fuel it hI hk _
    cases fuel with
    | zero => rfl
    | succ f =>
      rw [bDrain, hend it (hk ▸ hI)]
      rfl
  | succ k ih =>
    intro i fuel it hI hk hf
    obtain ⟨hhas, it', hnext, hI'⟩ := hstep i it hI (hk ▸ Nat.lt_add_of_pos_right (Nat.succ_pos k))
    cases fuel with
    | zero => exact absurd hf (Nat.not_succ_le_zero k)
    | succ fuel =>
      rw [bDrain, hhas, if_pos rfl, hnext]
      dsimp only
      rw [ih (i + 1) fuel it' hI' ((Nat.add_right_comm i 1 k).trans hk) (Nat.le_of_succ_le_succ hf)]
      rfl

/-- The state before the string of global ID `i` is yielded: at a local ID of a part, or behind the last part. -/
def AtId (bs : List (List Str)) (i : Nat) : BIter → Prop
  | ⟨c, p⟩ => i = pre bs p + c ∧
    ((∃ hp : p < bs.length, 1 ≤ c ∧ c ≤ bs[p].length) ∨ (p = bs.length ∧ c = 1))

theorem tableBlocks_ofBlocks (mk : List Str → HDict) (bs : List (List Str)) (hne : ∀ b ∈ bs, b ≠ []) :
    tableBlocks (ofBlocks mk bs) =
      some ((List.range' 1 bs.flatten.length).map (extractBlocks (ofBlocks mk bs))) := by
  have hpos : ∀ p (hp : p < bs.length), 1 ≤ bs[p].length := fun p hp =>
    List.length_pos_iff.mpr (hne _ (List.getElem_mem hp))
  refine bDrain_steps (ofBlocks mk bs) (extractBlocks (ofBlocks mk bs)) (n := bs.flatten.length + 1) (At := AtId bs)
    (hstep := ?step) (hend := ?stop) (k := bs.flatten.length) (i := 1) (it := ⟨1, 0⟩) (fuel := _) ?start
    (Nat.add_comm _ _) (Nat.le_succ _)
  case step =>
    rintro i ⟨c, p⟩ ⟨rfl, h⟩ hi
    rcases h with ⟨hp, h1, h2⟩ | ⟨rfl, rfl⟩
    · obtain ⟨hhas, hnext⟩ := bNext_ofBlocks mk bs p hp hne c h1 h2
      refine ⟨hhas, _, hnext, ?_⟩
      split
      · -- `c` was the last local ID: on to the next part, or behind the last one
        rename_i hlast
        refine ⟨by rw [pre_succ bs p hp, Nat.le_antisymm h2 (Nat.le_of_lt_succ hlast)], ?_⟩
        by_cases hp' : p + 1 < bs.length
        · exact .inl ⟨hp', Nat.le_refl _, hpos _ hp'⟩
        · exact .inr ⟨Nat.le_antisymm hp (Nat.le_of_not_lt hp'), rfl⟩
      · rename_i hlast
        exact ⟨rfl, .inl ⟨hp, Nat.le_add_left 1 c, Nat.le_of_not_lt hlast⟩⟩
    · -- behind the last part the counter is `n + 1`
      rw [pre_length] at hi
      exact absurd hi (Nat.lt_irrefl _)
  case stop =>
    rintro ⟨c, p⟩ ⟨hi, h⟩
    rcases h with ⟨hp, h1, h2⟩ | ⟨rfl, _⟩
    · exact absurd (hi ▸ ListIdx.pre_add_le bs p _ hp h2) (Nat.not_succ_le_self _)
    · simp only [bHasNext, ofBlocks, List.length_map, Nat.lt_irrefl, decide_false, Bool.false_and]
  case start =>
    cases bs with
    | nil => exact ⟨rfl, .inr ⟨rfl, rfl⟩⟩
    | cons b bs => exact ⟨by rw [pre_zero], .inl ⟨Nat.zero_lt_succ _, Nat.le_refl _, hpos 0 (Nat.zero_lt_succ _)⟩⟩

/-! At `buildBlocks`. Nothing else uses `toIndex_sub` and `extract_local`. -/
section
variable (cutSize : Nat) (tsizeOf : Nat → Nat) (S : List Str)

/-- `to_index() − starting_indexes[partIdx]` is the size of the part (no unsigned wrap-around). -/
theorem toIndex_sub (p : Nat) (hp : p < (cut cutSize S).length) :
    toIndex (buildBlocks cutSize tsizeOf S) p - (buildBlocks cutSize tsizeOf S).starts.getD p 0
      = ((cut cutSize S)[p]).length := by
  rw [buildBlocks_eq]
  exact toIndex_sub_ofBlocks _ _ p hp

theorem extract_local (p : Nat) (hp : p < (cut cutSize S).length) (c : Nat) (h1 : 1 ≤ c)
    (h2 : c ≤ ((cut cutSize S)[p]).length) :
    extractBlocks (buildBlocks cutSize tsizeOf S) (pre (cut cutSize S) p + c) =
      extract (build (tsizeOf ((cut cutSize S)[p]).length) ((cut cutSize S)[p])) c := by
  rw [buildBlocks_eq]
  exact extractBlocks_local _ _ (cut_nonempty cutSize S) p hp c h1 h2

theorem tableBlocks_build (hne : S ≠ []) :
    tableBlocks (buildBlocks cutSize tsizeOf S) =
      some ((List.range S.length).map fun i => extractBlocks (buildBlocks cutSize tsizeOf S) (i + 1)) := by
  have := tableBlocks_ofBlocks (fun b => build (tsizeOf b.length) b) (cut cutSize S) (cut_nonempty cutSize S)
  rw [cut_flatten, ← buildBlocks_eq, List.range'_eq_map_range, List.map_map] at this
  exact this.trans (congrArg some (List.map_congr_left fun i _ => congrArg _ (Nat.add_comm 1 i)))

end

theorem tableBlocks_each_once {cutSize : Nat} {tsizeOf : Nat → Nat} {S : List Str}
    (ok : PartsOK cutSize tsizeOf S) (hne : S ≠ []) :
    ∃ L : List Str, tableBlocks (buildBlocks cutSize tsizeOf S) = some (L.map some) ∧ L.length = S.length ∧
      L.Nodup ∧ ∀ w ∈ L, w ∈ S := by
  obtain ⟨L, hmap, hlen, hnd, hL⟩ := each_once_of_inverse (extractBlocks (buildBlocks cutSize tsizeOf S))
    (locateBlocks (buildBlocks cutSize tsizeOf S)) (· ∈ S) S.length fun id h1 h2 =>
      (blocks_extract_then_locate ok id h1 h2).imp fun _ h => ⟨h.2.1, h.1, h.2.2⟩
  exact ⟨L, by rw [tableBlocks_build cutSize tsizeOf S hne, hmap], hlen, hnd, fun w hw => (hL w hw).1⟩

end CSD.Hash
