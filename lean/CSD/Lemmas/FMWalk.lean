import CSD.Lemmas.FMSearch
import CSD.Lemmas.FMText

/-! The two backward walks of `SSA` on a text `T` with suffix array `L`, by LF steps (`lf_step`): `extract_id` through
a run `\1 u X` (`extractLoop_spec`) and the walk of `locate` to a sampled row or to the `\1` (`walk_spec`).  Both
take `u` reversed (`ur`), so that the recursion follows the walk. -/
namespace CSD.FM

theorem cnt_succ {bwt : List Sym} {x : Sym} {i : Nat} (h : bwt[i]? = some x) (c : Sym) :
    cnt bwt c (i + 1) = cnt bwt c i + if x = c then 1 else 0 := by
  obtain ⟨hi, he⟩ := List.getElem?_eq_some_iff.mp h
  rw [cnt, List.take_succ_eq_append_getElem hi, List.count_append, he, List.count_singleton]
  simp only [beq_iff_eq]
  rfl

/-- One LF step: from the row of `s`, preceded by `c ≠ 0`, `bwt->access` returns `c` with rank `r`, and
`occOf T c + r - 1` is the row of `c :: s`. -/
theorem lf_step {T : List Sym} {L : List Row} {ix : Index} (hSA : IsSA T L) (hB : Built T L ix)
    {c : Sym} {s : List Sym} (hc : c ≠ 0) (h : (some c, s) ∈ L) :
    access ix.bwt (lo L s) = some (c, cnt ix.bwt c (lo L s) + 1) ∧
    lo L (c :: s) = occOf T c + cnt ix.bwt c (lo L s) ∧
    (∃ p', (p', c :: s) ∈ L) := by
  have hb : ix.bwt[lo L s]? = some c := by
    rw [hB.bwt, List.getElem?_map, getElem_lo hSA h]
    rfl
  refine ⟨?_, ?_, hSA.exists_mem.mpr (hSA.some_mem.mp h)⟩
  · rw [access, hb]
    simp only
    rw [cnt_succ hb, if_pos rfl]
  · rw [step_lo hSA hc, lo_single hSA, hB.bwt]

theorem lf_text {T : List Sym} {L : List Row} {ix : Index} (hSA : IsSA T L) (hB : Built T L ix)
    {A X : List Sym} {c : Sym} (hc : c ≠ 0) (hT : T = A ++ c :: X) :
    access ix.bwt (lo L X) = some (c, cnt ix.bwt c (lo L X) + 1) ∧
    ix.occ[c]? = some (occOf T c) ∧
    lo L (c :: X) = occOf T c + cnt ix.bwt c (lo L X) := by
  have hrow : (some c, X) ∈ L := hSA.some_mem.mpr ⟨A, hT.symm⟩
  obtain ⟨hacc, hlo, _⟩ := lf_step hSA hB hc hrow
  have hmem : c ∈ ix.bwt := by
    rw [hB.bwt]
    exact List.mem_map.mpr ⟨_, hrow, rfl⟩
  exact ⟨hacc, (hB.occ c hc hmem).1, hlo⟩

theorem extractLoop_stop {ix : Index} {maxLen fuel i r : Nat} {acc : List Sym}
    (ha : access ix.bwt i = some (1, r)) : extractLoop ix maxLen (fuel + 1) i acc = some acc := by
  rw [extractLoop, ha]
  rfl

theorem extractLoop_step {ix : Index} {maxLen fuel i r oc : Nat} {c : Sym} {acc : List Sym}
    (ha : access ix.bwt i = some (c, r + 1)) (hc : c ≠ 1) (hlen : acc.length ≤ maxLen)
    (ho : ix.occ[c]? = some oc) :
    extractLoop ix maxLen (fuel + 1) i acc = extractLoop ix maxLen fuel (r + oc) (c :: acc) := by
  rw [extractLoop, ha]
  simp only [if_neg hc, if_neg (Nat.not_lt.mpr hlen), ho, Nat.add_one_ne_zero, ↓reduceIte, Nat.add_sub_cancel]

theorem extractLoop_spec {T : List Sym} {L : List Row} {ix : Index} (hSA : IsSA T L) (hB : Built T L ix)
    (maxLen : Nat) {A : List Sym} : ∀ (ur X acc : List Sym) (fuel : Nat),
    T = A ++ 1 :: (ur.reverse ++ X) → Ge2 ur → ur.length < fuel → ur.length + acc.length ≤ maxLen + 1 →
    extractLoop ix maxLen fuel (lo L X) acc = some (ur.reverse ++ acc) := by
  intro ur X acc fuel
  induction fuel generalizing ur X acc with
  | zero => exact fun _ _ hf _ => absurd hf (Nat.not_lt_zero _)
  | succ fuel ih =>
    intro hT hge hf hlen
    cases ur with
    | nil => exact extractLoop_stop (lf_text hSA hB Nat.one_ne_zero hT).1
    | cons c ur =>
      have hc := hge.head
      rw [List.reverse_cons, List.append_assoc, List.singleton_append] at hT
      obtain ⟨hacc, hocc, hlo⟩ := lf_text hSA hB (Nat.ne_zero_of_lt hc)
        (hT.trans (List.append_assoc A (1 :: ur.reverse) (c :: X)).symm)
      rw [List.length_cons, Nat.add_right_comm] at hlen
      have hacc' : acc.length ≤ maxLen := Nat.le_trans (Nat.le_add_left _ _) (Nat.le_of_succ_le_succ hlen)
      rw [extractLoop_step hacc (Nat.ne_of_gt hc) hacc' hocc, Nat.add_comm _ (occOf T c), ← hlo,
        ih ur (c :: X) (c :: acc) hT hge.tail (Nat.lt_of_succ_lt_succ hf) hlen, List.reverse_cons, List.append_assoc]
      rfl

theorem walk_stop {ix : Index} {fuel j r : Nat} (h : ix.sampled[j]? = some false)
    (ha : access ix.bwt j = some (1, r + 1)) : walk ix (fuel + 1) j = some r := by
  rw [walk, h, ha]
  rfl

theorem walk_step {ix : Index} {fuel j r oc : Nat} {c : Sym} (h : ix.sampled[j]? = some false)
    (ha : access ix.bwt j = some (c, r + 1)) (hc : c ≠ 1) (ho : ix.occ[c]? = some oc) :
    walk ix (fuel + 1) j = walk ix fuel (oc + r) := by
  rw [walk, h, ha]
  simp only [Nat.add_one_ne_zero, if_neg hc, ho, ↓reduceIte, Nat.add_sub_cancel]

/-- The rank of a marked row among the marked rows is its index in the sample array. -/
theorem walk_at_sample {ix : Index} {α : Type} {L : List α} {P : α → Bool} {g : α → Nat}
    (hsd : ix.sampled = L.map P) (hsm : ix.suffSample = (L.filter P).map g) {j : Nat} (hj : j < L.length)
    (hp : P L[j] = true) (fuel : Nat) : walk ix (fuel + 1) j = some (g L[j]) := by
  have h : ix.sampled[j]? = some true := by
    rw [hsd, List.getElem?_map, List.getElem?_eq_getElem hj, Option.map_some, hp]
  rw [walk, h]
  simp only
  rw [hsd, ListIdx.count_true_take_map P L j hj hp, if_neg (Nat.succ_ne_zero _),
    Nat.add_sub_cancel, hsm, List.getElem?_map, ListIdx.getElem?_filter_countP P L j hj hp, Option.map_some]

theorem pos_of_split {A X : List Sym} (p : Option Sym) : Row.pos (A ++ X).length (p, X) = A.length := by
  simp [Row.pos]

theorem sampled_at {T : List Sym} {L : List Row} {ix : Index} (hSA : IsSA T L) (hS : BuiltS T L ix)
    {A X : List Sym} (hT : T = A ++ X) : ix.sampled[lo L X]? = some (A.length % ix.samplesuff == 0) := by
  obtain ⟨p, hrow⟩ := hSA.exists_mem.mpr ⟨A, hT.symm⟩
  rw [hS.sampled, List.getElem?_map, getElem_lo hSA hrow, hT, Option.map_some, pos_of_split]

theorem walk_eq_sepRank {T : List Sym} {L : List Row} {ix : Index} (hSA : IsSA T L) (hS : BuiltS T L ix)
    {A X : List Sym} (hT : T = A ++ X) (hs : (A.length % ix.samplesuff == 0) = true) (fuel : Nat) :
    walk ix (fuel + 1) (lo L X) = some (sepRank T A.length) := by
  obtain ⟨p, hrow⟩ := hSA.exists_mem.mpr ⟨A, hT.symm⟩
  obtain ⟨hj, hL⟩ := List.getElem?_eq_some_iff.mp (getElem_lo hSA hrow)
  have hpos : L[lo L X].pos T.length = A.length := by rw [hL, hT, pos_of_split]
  rw [walk_at_sample hS.sampled hS.samples hj (by rw [hpos, hs]), hpos]

theorem sepRank_split (A : List Sym) (y : Sym) (W : List Sym) :
    sepRank (A ++ y :: W) A.length = A.count 1 + (if y = 1 then 1 else 0) := by
  rw [sepRank, List.take_length_add_append, List.count_append, List.take_succ_cons, List.take_zero,
    List.count_singleton]
  simp only [beq_iff_eq]

/-- `ID` is both the number of separators up to the `\1` in front of `u` (`hA`) and the rank of its row among the
rows that start with a separator (`hID`): a sampled row returns the first, the `\1` the second. -/
theorem walk_spec {T : List Sym} {L : List Row} {ix : Index} (hSA : IsSA T L) (hB : Built T L ix)
    (hS : BuiltS T L ix) {A : List Sym} {ID : Nat} (hA : A.count 1 + 1 = ID) :
    ∀ (ur : List Sym) (y : Sym) (W : List Sym) (fuel : Nat), T = A ++ 1 :: (ur.reverse ++ y :: W) → Ge2 ur →
      2 ≤ y → lo L (1 :: (ur.reverse ++ y :: W)) = occOf T 1 + ID → ur.length < fuel →
      walk ix fuel (lo L (y :: W)) = some ID := by
  intro ur y W fuel
  induction fuel generalizing ur y W with
  | zero => exact fun _ _ _ _ hf => absurd hf (Nat.not_lt_zero _)
  | succ fuel ih =>
    intro hT hge hy hID hf
    have hT' : T = (A ++ 1 :: ur.reverse) ++ y :: W := hT.trans (List.append_assoc A (1 :: ur.reverse) (y :: W)).symm
    cases hs : (A ++ 1 :: ur.reverse).length % ix.samplesuff == 0 with
    | true =>
      -- `ur` has no separator and `y ≠ 1`
      have hrank : sepRank T (A ++ 1 :: ur.reverse).length = ID := by
        rw [hT', sepRank_split, if_neg (Nat.ne_of_gt hy), List.count_append, List.count_cons_self,
          List.count_reverse, count_one_ge2 hge, ← hA]
      rw [walk_eq_sepRank hSA hS hT' hs, hrank]
    | false =>
      have hsamp := sampled_at hSA hS hT'
      rw [hs] at hsamp
      cases ur with
      | nil =>
        obtain ⟨hacc, _, hlo⟩ := lf_text hSA hB Nat.one_ne_zero hT
        rw [walk_stop hsamp hacc]
        rw [hlo] at hID
        exact congrArg some (Nat.add_left_cancel hID)
      | cons c ur =>
        have hc := hge.head
        rw [List.reverse_cons, List.append_assoc, List.singleton_append] at hT hID
        obtain ⟨hacc, hocc, hlo⟩ := lf_text hSA hB (Nat.ne_zero_of_lt hc)
          (hT.trans (List.append_assoc A (1 :: ur.reverse) (c :: y :: W)).symm)
        rw [walk_step hsamp hacc (Nat.ne_of_gt hc) hocc, ← hlo]
        exact ih ur c (y :: W) hT hge.tail hc hID (Nat.lt_of_succ_lt_succ hf)

/-! `cnt_succ` at a position that holds another symbol; no other theorem uses it. -/

theorem cnt_succ_of_ne {bwt : List Sym} {c x : Sym} {i : Nat} (h : bwt[i]? = some x) (hne : x ≠ c) :
    cnt bwt c (i + 1) = cnt bwt c i := by
  rw [cnt_succ h, if_neg hne]
  rfl

end CSD.FM
