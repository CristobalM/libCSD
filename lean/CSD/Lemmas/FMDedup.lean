import CSD.Model.IdIter2
import CSD.Lemmas.FMSorted

/-! `std::sort` of the occurrence array and the dropping of adjacent repetitions by the duplicate-skipping
iterators of `locateSubstr` / `extractSubstr`, as facts about lists of IDs. -/
namespace CSD.FM

theorem mem_insertSorted (x y : Nat) : ∀ l : List Nat, y ∈ insertSorted x l ↔ y = x ∨ y ∈ l
  | [] => by simp [insertSorted]
  | z :: l => by
    rw [insertSorted]
    split
    · exact List.mem_cons
    · rw [List.mem_cons, mem_insertSorted x y l, List.mem_cons, or_left_comm]

theorem sorted_insertSorted (x : Nat) : ∀ l : List Nat, l.Pairwise (· ≤ ·) → (insertSorted x l).Pairwise (· ≤ ·)
  | [], _ => by simp [insertSorted]
  | z :: l, h => by
    have ⟨hz, hl⟩ := List.pairwise_cons.mp h
    rw [insertSorted]
    split
    · next hx =>
      exact List.pairwise_cons.mpr ⟨fun a ha => (List.mem_cons.mp ha).elim (· ▸ hx) fun ha =>
        Nat.le_trans hx (hz a ha), h⟩
    · next hx =>
      refine List.pairwise_cons.mpr ⟨fun a ha => ?_, sorted_insertSorted x l hl⟩
      rcases (mem_insertSorted x a l).mp ha with rfl | ha
      · exact Nat.le_of_not_le hx
      · exact hz a ha

theorem mem_sortNat (y : Nat) : ∀ l : List Nat, y ∈ sortNat l ↔ y ∈ l
  | [] => Iff.rfl
  | x :: l => by
    rw [sortNat, List.foldr_cons, mem_insertSorted, ← sortNat, mem_sortNat y l, List.mem_cons]

theorem sorted_sortNat : ∀ l : List Nat, (sortNat l).Pairwise (· ≤ ·)
  | [] => List.Pairwise.nil
  | x :: l => sorted_insertSorted x _ (sorted_sortNat l)

theorem mem_dedupAdj (y : Nat) : ∀ l : List Nat, y ∈ dedupAdj l ↔ y ∈ l
  | [] => Iff.rfl
  | [_] => Iff.rfl
  | x :: z :: t => by
    rw [dedupAdj]
    split
    · next e => rw [mem_dedupAdj y (z :: t), e, List.mem_cons, List.mem_cons, List.mem_cons, or_self_left]
    · rw [List.mem_cons, mem_dedupAdj y (z :: t), ← List.mem_cons]

theorem sorted_dedupAdj : ∀ l : List Nat, l.Pairwise (· ≤ ·) → (dedupAdj l).Pairwise (· < ·)
  | [], _ => List.Pairwise.nil
  | [_], _ => List.pairwise_singleton _ _
  | x :: z :: t, h => by
    have ⟨hx, hzt⟩ := List.pairwise_cons.mp h
    rw [dedupAdj]
    split
    · exact sorted_dedupAdj (z :: t) hzt
    · next e =>
      -- `x < z`, and `z` is the least of what follows
      refine List.pairwise_cons.mpr ⟨fun a ha => ?_, sorted_dedupAdj (z :: t) hzt⟩
      have hxz := Nat.lt_of_le_of_ne (hx z List.mem_cons_self) e
      rcases List.mem_cons.mp ((mem_dedupAdj a (z :: t)).mp ha) with rfl | hat
      · exact hxz
      · exact Nat.lt_of_lt_of_le hxz ((List.pairwise_cons.mp hzt).1 a hat)

theorem dedup_sort_eq (ids l' : List Nat) (hl' : l'.Pairwise (· < ·)) (hmem : ∀ x, x ∈ ids ↔ x ∈ l') :
    dedupAdj (sortNat ids) = l' :=
  eq_of_sorted_same_mem (sorted_dedupAdj _ (sorted_sortNat ids)) hl' fun x => by
    rw [mem_dedupAdj, mem_sortNat, hmem]

theorem dedupAdj_eq_dups : ∀ l : List Nat, dedupAdj l = CSD.Dups.dedupAdj l
  | [] => rfl
  | [_] => rfl
  | x :: y :: t => by rw [dedupAdj, CSD.Dups.dedupAdj, dedupAdj_eq_dups (y :: t)]

/-- The IDs the iterator emits: repetitions of the ID just returned are skipped. -/
def dd : Option Nat → List Nat → List Nat
  | _, [] => []
  | prev, x :: l => if prev = some x then dd prev l else x :: dd (some x) l

theorem dedupAdj_cons_dd : ∀ (l : List Nat) (x : Nat), dedupAdj (x :: l) = x :: dd (some x) l
  | [], x => rfl
  | y :: l, x => by
    rw [dedupAdj, dd, dedupAdj_cons_dd l y]
    by_cases h : x = y
    · rw [if_pos h, if_pos (congrArg some h), h]
    · rw [if_neg h, if_neg fun e => h (Option.some.inj e)]

theorem dd_none : ∀ l : List Nat, dd none l = dedupAdj l
  | [] => rfl
  | x :: l => by rw [dd, if_neg nofun, dedupAdj_cons_dd]

end CSD.FM
