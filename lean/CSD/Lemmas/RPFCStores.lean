import CSD.Lemmas.RPFCDecode
import CSD.Lemmas.PFCBucket

/-! `Stores S d`: plain bucket headers and, behind each, a symbol stream that stores the bucket's other strings one by
one. What the query routines read of such an object, `extract`, and the soundness of the driver's check. A result
`some …` of a model routine means that no symbol was read past a bucket's stream. -/
namespace CSD.RPFC
open CSD.RePair CSD.PFC

/-- What a member must satisfy so that `decodeString` can rebuild it on its predecessor: a two-byte
VByte (the known limit of RPFC, K11), a non-empty suffix and no byte equal to the terminator mark. -/
def Decodable (maxchar : Nat) (prev cur : Str) : Prop :=
  lcp prev cur < 16384 ∧ cur.drop (lcp prev cur) ≠ [] ∧ ∀ b ∈ cur, b.toNat ≠ maxchar

def ChainOK (maxchar : Nat) : Str → List Str → Prop
  | _, [] => True
  | prev, cur :: rest => Decodable maxchar prev cur ∧ ChainOK maxchar cur rest

theorem decodeString_storesTail (d : D) {prev c : Str} {L : List Str} {st : List Nat}
    (hst : StoresTail d.g d.maxchar prev (c :: L) st) (hch : ChainOK d.maxchar prev (c :: L)) :
    ∃ st', decodeString d prev st = some (lcp prev c, c, st') ∧
      StoresTail d.g d.maxchar c L st' ∧ ChainOK d.maxchar c L := by
  cases hst with
  | cons _ _ _ σ τ hexp hne htail =>
    exact ⟨τ, decodeString_spec d prev c σ τ hexp hne hch.1.1 hch.1.2.1 hch.1.2.2, htail, hch.2⟩

theorem decodeSteps_storesTail (d : D) (L : List Str) (h : Str) (σ : List Nat) (j : Nat)
    (hst : StoresTail d.g d.maxchar h L σ) (hch : ChainOK d.maxchar h L) (hj : j ≤ L.length) :
    ∃ x σ', (h :: L)[j]? = some x ∧ decodeSteps d j h σ = some (x, σ') ∧
      StoresTail d.g d.maxchar x (L.drop j) σ' ∧ ChainOK d.maxchar x (L.drop j) := by
  induction j generalizing L h σ with
  | zero => exact ⟨h, σ, rfl, rfl, hst, hch⟩
  | succ j ih =>
    cases L with
    | nil => exact absurd hj (Nat.not_succ_le_zero j)
    | cons s L =>
      obtain ⟨τ, hdec, htail, hch'⟩ := decodeString_storesTail d hst hch
      obtain ⟨x, σ', hx, hr, h1, h2⟩ := ih L s τ htail hch' (Nat.le_of_succ_le_succ hj)
      exact ⟨x, σ', hx, by simp only [decodeSteps, hdec]; exact hr, h1, h2⟩

/-- The object stores the dictionary `S`: plain headers, one stream per bucket that stores the bucket's
other strings, the counters of the constructor. -/
structure Stores (S : List Str) (d : D) : Prop where
  b2 : 2 ≤ d.bucketsize
  elements : d.elements = S.length
  buckets : d.buckets = (chunks d.bucketsize S).length
  headers : d.headers = (chunks d.bucketsize S).map (·.headD [])
  nstreams : d.streams.length = (chunks d.bucketsize S).length
  streams : ∀ (k : Nat) (c : List Str) (σ : List Nat), (chunks d.bucketsize S)[k]? = some c → d.streams[k]? = some σ →
    StoresTail d.g d.maxchar (c.headD []) (c.drop 1) σ ∧ ChainOK d.maxchar (c.headD []) (c.drop 1)

section
variable {S : List Str} {d : D}

theorem Stores.pos (hst : Stores S d) : 0 < d.bucketsize := Nat.lt_of_lt_of_le Nat.zero_lt_two hst.b2

theorem bucket_stores (hst : Stores S d) (k : Nat) (hk : k * d.bucketsize < S.length) :
    ∃ σ, header d (k + 1) = some S[k * d.bucketsize] ∧ stream d (k + 1) = some σ ∧
      StoresTail d.g d.maxchar S[k * d.bucketsize] ((S.drop (k * d.bucketsize + 1)).take (d.bucketsize - 1)) σ ∧
      ChainOK d.maxchar S[k * d.bucketsize] ((S.drop (k * d.bucketsize + 1)).take (d.bucketsize - 1)) := by
  have hchunk := chunks_getElem? d.bucketsize (Nat.ne_of_gt hst.pos) S k hk
  rw [take_drop_cons S _ _ hk hst.pos] at hchunk
  have hklen : k < d.streams.length := by
    rw [hst.nstreams]; exact (List.getElem?_eq_some_iff.mp hchunk).1
  refine ⟨d.streams[k], ?_, ?_, hst.streams k _ _ hchunk (List.getElem?_eq_getElem hklen)⟩
  · simp only [header, Nat.add_one_ne_zero, ↓reduceIte, Nat.add_sub_cancel, hst.headers, List.getElem?_map, hchunk]
    rfl
  · simp only [stream, Nat.add_one_ne_zero, ↓reduceIte, Nat.add_sub_cancel, List.getElem?_eq_getElem hklen]

theorem buckets_stores (hst : Stores S d) : d.buckets = (S.length + d.bucketsize - 1) / d.bucketsize := by
  rw [hst.buckets, chunks_length d.bucketsize (Nat.ne_of_gt hst.pos) S]

theorem buckets_eq_build (hst : Stores S d) : d.buckets = (build d.bucketsize S).buckets := by
  rw [buckets_stores hst, build_buckets, clamp_of_ge2 hst.b2]

/-- Bucket `k` once more: `bucket_stores` has it 0-based as a `drop`/`take` of `S` (for `extract`, the iterator), this
1-based by `hd`/`bucketOf` like `PFC.bucket_facts` (for `locate`, the prefix search). In order: the bucket is `hd :: L`,
header, stream, the stream stores `L`, `L` is decodable, `scanneableOf`. -/
theorem bucket_hd (hst : Stores S d) {k : Nat} (h1 : 1 ≤ k) (h2 : k ≤ d.buckets) :
    ∃ L σ, bucketOf d.bucketsize S k = hd d.bucketsize S k :: L ∧ header d k = some (hd d.bucketsize S k) ∧
      stream d k = some σ ∧ StoresTail d.g d.maxchar (hd d.bucketsize S k) L σ ∧
      ChainOK d.maxchar (hd d.bucketsize S k) L ∧ scanneableOf d k = 1 + L.length := by
  rw [buckets_eq_build hst] at h2
  have hlt := bucket_idx_lt d.bucketsize S k h1 h2
  have hhd := hd_get d.bucketsize S k h1 h2
  obtain ⟨k, rfl⟩ : ∃ j, k = j + 1 := ⟨k - 1, (Nat.sub_add_cancel h1).symm⟩
  simp only [clamp_of_ge2 hst.b2, Nat.add_sub_cancel] at hlt hhd
  obtain ⟨σ, hhdr, hstr, hstores, hchain⟩ := bucket_stores hst k hlt
  have hchunk := take_drop_cons S _ d.bucketsize hlt hst.pos
  have hsc : scanneableOf d (k + 1) = min d.bucketsize (S.length - k * d.bucketsize) := by
    rw [scanneableOf, buckets_stores hst, hst.elements]
    exact scanneable_eq d.bucketsize S.length k hst.b2 hlt
  rw [← List.length_drop, ← List.length_take, hchunk, List.length_cons] at hsc
  rw [← hhd] at hhdr hstores hchain hchunk
  exact ⟨_, σ, by rw [bucketOf, Nat.add_sub_cancel]; exact hchunk, hhdr, hstr, hstores, hchain, hsc.trans (Nat.add_comm _ 1)⟩

end

/-- **`StringDictionaryRPFC::extract` is exact** on every object that stores the dictionary. -/
theorem extract_stores {S : List Str} {d : D} (hst : Stores S d) (i : Nat) (h1 : 1 ≤ i) (h2 : i ≤ S.length) :
    extract d i = some (S[i - 1]?) := by
  unfold extract
  rw [if_pos ⟨h1, by rw [hst.elements]; exact h2⟩]
  have hdecomp := Nat.div_add_mod' (i - 1) d.bucketsize
  have hpos_lt := Nat.mod_lt (i - 1) hst.pos
  generalize (i - 1) / d.bucketsize = k at hdecomp ⊢
  generalize (i - 1) % d.bucketsize = pos at hdecomp hpos_lt ⊢
  have hn : k * d.bucketsize + pos < S.length := hdecomp ▸ Nat.lt_of_lt_of_le (Nat.sub_lt h1 Nat.one_pos) h2
  have hk := Nat.lt_of_le_of_lt (Nat.le_add_right _ pos) hn
  obtain ⟨σ, hhdr, hstr, hstores, hchain⟩ := bucket_stores hst k hk
  obtain ⟨x, σ', hx, hdec, _, _⟩ := decodeSteps_storesTail d _ _ σ pos hstores hchain (tail_length_ge hpos_lt hn)
  simp only [Nat.add_comm 1 k, hhdr, hstr, hdec]
  rw [← hx, ← take_drop_cons S _ _ hk hst.pos, List.getElem?_take_of_lt hpos_lt, List.getElem?_drop, hdecomp]

theorem extract_bad_id {S : List Str} {d : D} (hst : Stores S d) (i : Nat) (h : i = 0 ∨ i > S.length) :
    extract d i = some none := by
  rw [extract, hst.elements, if_neg fun hc => h.elim (Nat.ne_of_gt hc.1) fun g => Nat.not_le.mpr g hc.2]

theorem takeEntry_sound (g : Grammar) (want : List Nat) (fuel : Nat) (st acc st' : List Nat)
    (h : takeEntry g want fuel st acc = some st') :
    ∃ σ, st = σ ++ st' ∧ acc ++ g.expand σ = want ∧ ∀ r ∈ σ, g.expandSym r ≠ [] := by
  induction fuel generalizing st acc with
  | zero => cases h
  | succ fuel ih =>
    unfold takeEntry at h
    by_cases he : acc = want
    · rw [if_pos he] at h
      exact ⟨[], Option.some.inj h, by rw [he]; exact List.append_nil _, fun _ hr => by cases hr⟩
    · rw [if_neg he] at h
      cases st with
      | nil => cases h
      | cons r st1 =>
        by_cases hr : g.expandSym r = []
        · simp only [hr, ↓reduceIte] at h; cases h
        · simp only [hr, ↓reduceIte] at h
          obtain ⟨σ, h1, h2, h3⟩ := ih st1 (acc ++ g.expandSym r) h
          rw [List.append_assoc, ← expand_cons] at h2
          exact ⟨r :: σ, by rw [h1]; rfl, h2, fun x hx => (List.mem_cons.mp hx).elim (fun e => e ▸ hr) (h3 x)⟩

theorem bucketStores_sound (g : Grammar) (maxchar : Nat) : ∀ (prev : Str) (rest : List Str) (st : List Nat),
    bucketStores g maxchar prev rest st = true →
    StoresTail g maxchar prev rest st ∧ ChainOK maxchar prev rest := by
  intro prev rest
  induction rest generalizing prev with
  | nil =>
    intro st h
    rw [bucketStores, List.isEmpty_iff] at h
    exact h ▸ ⟨StoresTail.nil prev, trivial⟩
  | cons cur rest ih =>
    intro st h
    simp only [bucketStores, Bool.and_eq_true, decide_eq_true_eq, Bool.not_eq_true', List.isEmpty_eq_false_iff,
      List.all_eq_true, bne_iff_ne, ne_eq] at h
    obtain ⟨⟨⟨h1, h2⟩, h3⟩, h4⟩ := h
    cases ht : takeEntry g (entry maxchar prev cur) ((entry maxchar prev cur).length + 2) st [] with
    | none => rw [ht] at h4; cases h4
    | some st' =>
      rw [ht] at h4
      obtain ⟨σ, hs, hexp, hne⟩ := takeEntry_sound g _ _ st [] st' ht
      obtain ⟨ih1, ih2⟩ := ih cur st' h4
      exact hs ▸ ⟨StoresTail.cons prev cur rest σ st' hexp hne ih1, ⟨h1, h2, h3⟩, ih2⟩

theorem stores_of_storesB {S : List Str} {d : D} (h : storesB S d = true) : Stores S d := by
  simp only [storesB, Bool.and_eq_true, decide_eq_true_eq, List.all_eq_true] at h
  obtain ⟨⟨⟨⟨⟨h1, h2⟩, hb⟩, h3⟩, h4⟩, h5⟩ := h
  refine ⟨h1, h2, hb, h3, h4, fun k c σ hc hσ => bucketStores_sound d.g d.maxchar _ _ _ (h5 (c, σ) ?_)⟩
  exact List.mem_iff_getElem?.mpr ⟨k, List.getElem?_zip_eq_some.mpr ⟨hc, hσ⟩⟩

/-- `extract_stores` for what the driver checks; not used by others. -/
theorem extract_checked {S : List Str} {d : D} (h : storesB S d = true) (i : Nat) (h1 : 1 ≤ i) (h2 : i ≤ S.length) :
    extract d i = some (S[i - 1]?) := extract_stores (stores_of_storesB h) i h1 h2

end CSD.RPFC
