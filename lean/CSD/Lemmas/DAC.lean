import CSD.Model.DAC
import CSD.Lemmas.ListIdx

/-! `DAC_VLS::access` returns the sequence stored, for every list of non-empty sequences. -/
namespace CSD.DAC
open CSD.ListIdx

/-- The map of `level L j`. -/
def symF (j : Nat) : List Nat → Option Nat := fun s => s[j]?
/-- The map of `levelBits L j`. -/
def bitF (j : Nat) : List Nat → Option Bool := fun s => if j < s.length then some (decide (j + 1 < s.length)) else none

theorem level_eq (L : List (List Nat)) (j : Nat) : level L j = L.filterMap (symF j) := rfl
theorem levelBits_eq (L : List (List Nat)) (j : Nat) : levelBits L j = L.filterMap (bitF j) := rfl

/-! The counting facts about the levels are these three facts about one sequence, summed over the list. -/

theorem symF_isSome (j : Nat) (s : List Nat) : (symF j s).isSome = decide (j < s.length) := by
  by_cases h : j < s.length
  · rw [symF, List.getElem?_eq_getElem h, decide_eq_true h]; rfl
  · rw [symF, List.getElem?_eq_none (Nat.not_lt.mp h), decide_eq_false h]; rfl

theorem bitF_isSome (j : Nat) (s : List Nat) : (bitF j s).isSome = decide (j < s.length) := by
  by_cases h : j < s.length
  · rw [bitF, if_pos h, decide_eq_true h]; rfl
  · rw [bitF, if_neg h, decide_eq_false h]; rfl

theorem bitF_filter_isSome (j : Nat) (s : List Nat) : ((bitF j s).filter id).isSome = decide (j + 1 < s.length) := by
  by_cases h : j < s.length
  · rw [bitF, if_pos h]; by_cases h2 : j + 1 < s.length <;> simp [Option.filter, h2]
  · rw [bitF, if_neg h, decide_eq_false fun h2 => h (Nat.lt_of_succ_lt h2)]; rfl

theorem len_sym_bit (j : Nat) (l : List (List Nat)) : (l.filterMap (bitF j)).length = (l.filterMap (symF j)).length := by
  rw [List.length_filterMap_eq_countP, List.length_filterMap_eq_countP]
  exact List.countP_congr fun s _ => by rw [bitF_isSome, symF_isSome]

theorem ones_bits (j : Nat) (l : List (List Nat)) :
    ((l.filterMap (bitF j)).filter id).length = (l.filterMap (symF (j + 1))).length := by
  rw [List.filter_filterMap, List.length_filterMap_eq_countP, List.length_filterMap_eq_countP]
  exact List.countP_congr fun s _ => by rw [bitF_filter_isSome, symF_isSome]

theorem len_sym0 (l : List (List Nat)) (h : ∀ s ∈ l, s ≠ []) : (l.filterMap (symF 0)).length = l.length := by
  rw [List.length_filterMap_eq_countP, List.countP_eq_length]
  intro s hs
  rw [symF_isSome, decide_eq_true (List.length_pos_iff.mpr (h s hs))]

theorem cnt_sym_bit (j : Nat) (L : List (List Nat)) (i : Nat) : cntB (bitF j) L i = cntB (symF j) L i :=
  len_sym_bit j (L.take i)

theorem maxLen_ge (L : List (List Nat)) : ∀ s ∈ L, s.length ≤ maxLen L := le_foldl_max (·.length) L 0

theorem sums_getElem? : ∀ (ws : List Nat) (acc j : Nat), j ≤ ws.length → (sums acc ws)[j]? = some (acc + (ws.take j).sum)
  | [], acc, 0, _ => rfl
  | w :: ws, acc, 0, _ => rfl
  | w :: ws, acc, j + 1, h => by
    rw [sums, List.getElem?_cons_succ, sums_getElem? ws (acc + w) j (Nat.le_of_succ_le_succ h), List.take_succ_cons,
      List.sum_cons, Nat.add_assoc]

/-- The levels / the bit blocks as lists of lists. -/
def lv (L : List (List Nat)) : List (List Nat) := (List.range (maxLen L)).map (level L)
def bl (L : List (List Nat)) : List (List Bool) := (List.range (maxLen L - 1)).map (levelBits L)

theorem lv_length (L : List (List Nat)) : (lv L).length = maxLen L := by simp [lv]
theorem bl_length (L : List (List Nat)) : (bl L).length = maxLen L - 1 := by simp [bl]

theorem lv_get (L : List (List Nat)) (j : Nat) (hj : j < (lv L).length) : (lv L)[j] = L.filterMap (symF j) := by
  simp [lv, level_eq]

theorem bl_get (L : List (List Nat)) (j : Nat) (hj : j < (bl L).length) : (bl L)[j] = L.filterMap (bitF j) := by
  simp [bl, levelBits_eq]

theorem pre_bl_lv (L : List (List Nat)) (j : Nat) (hj : j ≤ maxLen L - 1) : pre (bl L) j = pre (lv L) j := by
  induction j with
  | zero => rfl
  | succ j ih =>
    have h1 : j < (bl L).length := (bl_length L).symm ▸ hj
    have h2 : j < (lv L).length := (lv_length L).symm ▸ Nat.lt_of_lt_of_le hj (Nat.sub_le _ _)
    rw [pre_succ _ j h1, pre_succ _ j h2, ih (Nat.le_of_lt hj), bl_get L j h1, lv_get L j h2, len_sym_bit]

theorem build_vals (L : List (List Nat)) : (build L).vals = (lv L).flatten := rfl
theorem build_bits (L : List (List Nat)) : (build L).bits = (bl L).flatten ++ [true] := rfl
theorem build_n (L : List (List Nat)) : (build L).nLevels = maxLen L := rfl

theorem build_idx (L : List (List Nat)) (j : Nat) (hj : j ≤ maxLen L) :
    (build L).levelsIndex[j]? = some (pre (lv L) j) := by
  show (sums 0 ((lv L).map List.length))[j]? = _
  rw [sums_getElem? _ 0 j (by simp [lv_length]; exact hj)]
  simp [pre, List.map_take]

theorem bits_take (L : List (List Nat)) (j q : Nat) (hj : j < maxLen L - 1) (hq : q ≤ (L.filterMap (bitF j)).length) :
    (build L).bits.take (pre (lv L) j + q) = ((bl L).take j).flatten ++ (L.filterMap (bitF j)).take q := by
  have hjl : j < (bl L).length := (bl_length L).symm ▸ hj
  rw [← bl_get L j hjl] at hq ⊢
  rw [build_bits, ← pre_bl_lv L j (Nat.le_of_lt hj), List.take_append_of_le_length (pre_add_le _ j q hjl hq),
    flatten_take _ j q hjl hq]

theorem bits_take_pre (L : List (List Nat)) (j : Nat) (hj : j ≤ maxLen L - 1) :
    (build L).bits.take (pre (lv L) j) = ((bl L).take j).flatten := by
  rw [build_bits, ← pre_bl_lv L j hj, List.take_append_of_le_length (pre_le _ j),
    flatten_take_pre _ j]

/-- Position of the `j`-th symbol of sequence `i` in `vals` (and of its bit in `bits`). -/
def pos (L : List (List Nat)) (i j : Nat) : Nat := pre (lv L) j + cntB (symF j) L i

section
variable (L : List (List Nat)) (i : Nat) (hi : i < L.length)

theorem sym_some (j : Nat) (hj : j < L[i].length) : symF j L[i] = some L[i][j] := by
  simp [symF, List.getElem?_eq_getElem hj]

theorem bit_some (j : Nat) (hj : j < L[i].length) : bitF j L[i] = some (decide (j + 1 < L[i].length)) := by
  simp [bitF, hj]

theorem len_le_max : L[i].length ≤ maxLen L := maxLen_ge L _ (List.getElem_mem hi)

theorem vals_pos (j : Nat) (hj : j < L[i].length) : (build L).vals[pos L i j]? = some L[i][j] := by
  have hjl : j < (lv L).length := (lv_length L).symm ▸ Nat.lt_of_lt_of_le hj (len_le_max L i hi)
  have hc := cntB_lt (symF j) L i hi _ (sym_some L i hi j hj)
  rw [build_vals, pos, flatten_getElem? (lv L) j _ hjl (by rw [lv_get L j hjl]; exact hc), lv_get L j hjl]
  exact filterMap_getElem? (symF j) L i hi _ (sym_some L i hi j hj)

theorem bits_pos (j : Nat) (hj : j < L[i].length) (hjn : j + 1 < maxLen L) :
    (build L).bits[pos L i j]? = some (decide (j + 1 < L[i].length)) := by
  have hjm : j < maxLen L - 1 := Nat.lt_sub_of_add_lt hjn
  have hjl : j < (bl L).length := (bl_length L).symm ▸ hjm
  have hb := bit_some L i hi j hj
  have hcb : cntB (symF j) L i < ((bl L)[j]).length := by
    rw [bl_get L j hjl, ← cnt_sym_bit]; exact cntB_lt (bitF j) L i hi _ hb
  rw [build_bits, pos, ← pre_bl_lv L j (Nat.le_of_lt hjm), List.getElem?_append_left (pre_add_lt _ j _ hjl hcb),
    flatten_getElem? (bl L) j _ hjl hcb, bl_get L j hjl, ← cnt_sym_bit]
  exact filterMap_getElem? (bitF j) L i hi _ hb

theorem rank_pos (j : Nat) (hj : j < L[i].length) (hjn : j + 1 < maxLen L) :
    rank1 (build L).bits (pos L i j) =
      (((bl L).take j).flatten.filter id).length + cntB (symF (j + 1)) L (i + 1) := by
  have hb := bit_some L i hi j hj
  rw [rank1, pos, ← cnt_sym_bit, Nat.add_assoc, ← cntB_succ_some (bitF j) L i hi _ hb,
    bits_take L j _ (Nat.lt_sub_of_add_lt hjn) (cntB_le _ _ _), List.filter_append, List.length_append,
    filterMap_take (bitF j) L (i + 1), ones_bits]
  rfl

/-- Every level below the first starts behind the first, which is not empty. -/
theorem pre_lv_pos (j : Nat) (h0 : 0 < j) (hj : j < L[i].length) : 0 < pre (lv L) j := by
  have hjn : j ≤ (lv L).length := (lv_length L).symm ▸ Nat.le_trans (Nat.le_of_lt hj) (len_le_max L i hi)
  have h0l : 0 < (lv L).length := Nat.lt_of_lt_of_le h0 hjn
  have h1 := pre_mono (lv L) 1 j h0 hjn
  rw [pre_succ (lv L) 0 h0l, lv_get L 0 h0l] at h1
  exact Nat.lt_of_lt_of_le (Nat.zero_lt_of_lt (cntB_lt (symF 0) L i hi _ (sym_some L i hi 0 (Nat.lt_trans h0 hj))))
    (Nat.le_trans (Nat.le_add_left _ _) h1)

theorem rankLevels_get (j : Nat) (hj : j < L[i].length) :
    (build L).rankLevels[j]? = some ((((bl L).take j).flatten.filter id).length) := by
  have hjn : j < maxLen L := Nat.lt_of_lt_of_le hj (len_le_max L i hi)
  show ((List.range (maxLen L)).map fun j => if j = 0 then 0 else
      rank1 (build L).bits ((build L).levelsIndex.getD j 0 - 1))[j]? = _
  rw [List.getElem?_map, List.getElem?_range hjn, Option.map_some]
  by_cases h0 : j = 0
  · subst h0; rfl
  · rw [if_neg h0, List.getD_eq_getElem?_getD, build_idx L j (Nat.le_of_lt hjn), Option.getD_some, rank1,
      Nat.sub_add_cancel (pre_lv_pos L i hi j (Nat.pos_of_ne_zero h0) hj), bits_take_pre L j (Nat.le_sub_one_of_lt hjn)]

theorem accessLoop_step (j fuel : Nat) (acc : List Nat) (hj1 : j + 1 < L[i].length) :
    accessLoop (build L) (fuel + 1) j (pos L i j) acc =
      accessLoop (build L) fuel (j + 1) (pos L i (j + 1)) (acc ++ [L[i][j + 1]]) := by
  have hj : j < L[i].length := Nat.lt_of_succ_lt hj1
  have hjn : j + 1 < maxLen L := Nat.lt_of_lt_of_le hj1 (len_le_max L i hi)
  rw [accessLoop, build_n, if_pos hjn, bits_pos L i hi j hj hjn, decide_eq_true hj1]
  simp only
  rw [rankLevels_get L i hi j hj, build_idx L (j + 1) (Nat.le_of_lt hjn)]
  simp only
  -- `rank - rankLevels[j] = cntB (symF (j + 1)) L i + 1`: no wrap, next is `pos L i (j + 1)`
  rw [rank_pos L i hi j hj hjn, cntB_succ_some (symF (j + 1)) L i hi _ (sym_some L i hi (j + 1) hj1),
    if_neg (Nat.not_le.mpr (Nat.lt_add_of_pos_right (Nat.succ_pos _))), Nat.add_sub_cancel_left,
    ← Nat.add_assoc, Nat.add_sub_cancel, ← pos, vals_pos L i hi (j + 1) hj1]

theorem accessLoop_stop (j fuel : Nat) (acc : List Nat) (hj : j + 1 = L[i].length) :
    accessLoop (build L) (fuel + 1) j (pos L i j) acc = some acc := by
  rw [accessLoop, build_n]
  by_cases hjn : j + 1 < maxLen L
  · rw [if_pos hjn, bits_pos L i hi j (hj ▸ Nat.lt_succ_self j) hjn, decide_eq_false (hj ▸ Nat.lt_irrefl _)]
  · rw [if_neg hjn]

theorem loop_from : ∀ (k j fuel : Nat), j + 1 + k = L[i].length → k < fuel →
    accessLoop (build L) fuel j (pos L i j) (L[i].take (j + 1)) = some L[i]
  | 0, j, fuel + 1, h, _ => by
    rw [accessLoop_stop L i hi j fuel _ h, List.take_of_length_le (Nat.le_of_eq h.symm)]
  | k + 1, j, fuel + 1, h, hf => by
    have hj1 : j + 1 < L[i].length := h ▸ Nat.lt_add_of_pos_right (Nat.succ_pos k)
    rw [accessLoop_step L i hi j fuel _ hj1, ← List.take_succ_eq_append_getElem hj1]
    exact loop_from k (j + 1) fuel (by rw [← h, Nat.add_assoc (j + 1), Nat.add_comm 1 k]) (Nat.lt_of_succ_lt_succ hf)

/-- `loop_from` at any level `j`, with truncated differences; not used by others. -/
theorem loop_spec : ∀ (m j fuel : Nat), j < L[i].length → L[i].length - 1 - j = m → maxLen L - j ≤ fuel →
    accessLoop (build L) fuel j (pos L i j) (L[i].take (j + 1)) = some L[i] := fun m j fuel hj hm hf =>
  have hlt : L[i].length - 1 - j < L[i].length - j :=
    Nat.sub_lt_sub_right (Nat.le_sub_one_of_lt hj) (Nat.sub_lt (Nat.zero_lt_of_lt hj) Nat.one_pos)
  loop_from L i hi m j fuel (by rw [← hm, Nat.sub_sub, Nat.add_comm 1 j]; exact Nat.add_sub_cancel' hj)
    (hm ▸ Nat.lt_of_lt_of_le hlt (Nat.le_trans (Nat.sub_le_sub_right (len_le_max L i hi) j) hf))

/-- **`access(i + 1)` returns the `i`-th sequence.** -/
theorem access_build (hall : ∀ s ∈ L, s ≠ []) : access (build L) (i + 1) = some L[i] := by
  have h0 : 0 < L[i].length := List.length_pos_iff.mpr (hall _ (List.getElem_mem hi))
  have hp : i + 1 - 1 = pos L i 0 := by
    rw [Nat.add_sub_cancel, pos, cntB, len_sym0 _ fun s hs => hall s (List.mem_of_mem_take hs), List.length_take,
      Nat.min_eq_left (Nat.le_of_lt hi)]
    exact (Nat.zero_add i).symm
  rw [access, if_neg (Nat.succ_ne_zero i), hp, vals_pos L i hi 0 h0]
  simp only
  rw [build_n, show [L[i][0]] = L[i].take (0 + 1) from (List.take_succ_eq_append_getElem h0).symm]
  exact loop_from L i hi (L[i].length - 1) 0 (maxLen L) (by rw [Nat.zero_add, Nat.add_comm]; exact Nat.sub_add_cancel h0)
    (Nat.lt_of_lt_of_le (Nat.sub_lt h0 Nat.one_pos) (len_le_max L i hi))
end

end CSD.DAC
