import CSD.Model.RPFCStore
import CSD.Lemmas.Order
import CSD.Lemmas.VByte
import CSD.Lemmas.RePair
import CSD.Lemmas.ListIdx

/-! `decodeString` of RPFC reads exactly one stored string: from symbols that expand to
`VByte(lcp) ++ suffix ++ [maxchar]` it returns the shared length, the string and the stream behind them, also when
the VByte byte is the mark (`lcp = 127`). -/
namespace CSD.RPFC
open CSD.RePair CSD.PFC

/-- The stream stores the strings `rest` (each coded against its predecessor, starting from `prev`),
string by string, with symbols whose expansions are non-empty. -/
inductive StoresTail (g : Grammar) (maxchar : Nat) : Str → List Str → List Nat → Prop where
  | nil (prev : Str) : StoresTail g maxchar prev [] []
  | cons (prev cur : Str) (rest : List Str) (σ τ : List Nat) :
      g.expand σ = entry maxchar prev cur → (∀ r ∈ σ, g.expandSym r ≠ []) →
      StoresTail g maxchar cur rest τ → StoresTail g maxchar prev (cur :: rest) (σ ++ τ)

theorem toBytes_natsOf (s : Str) : toBytes (natsOf s) = s := by
  rw [toBytes, natsOf, List.map_map]
  exact (List.map_congr_left fun b _ => by simp).trans (List.map_id s)

theorem natsOf_append (a b : Str) : natsOf (a ++ b) = natsOf a ++ natsOf b := List.map_append
theorem natsOf_take (a : Str) (k : Nat) : (natsOf a).take k = natsOf (a.take k) := List.map_take.symm

/-- Fuel: a symbol yields at least one byte, so one round per byte still missing and the round that sees both. -/
theorem readVB_spec (g : Grammar) (fuel : Nat) (σ τ vb : List Nat) (hne : ∀ r ∈ σ, g.expandSym r ≠ [])
    (hlen : 2 ≤ vb.length + (g.expand σ).length) (hf : 2 < fuel + vb.length) (h0 : 0 < fuel) :
    ∃ σ1 σ2, σ = σ1 ++ σ2 ∧ readVB g fuel (σ ++ τ) vb = some (vb ++ g.expand σ1, σ2 ++ τ) ∧
      2 ≤ (vb ++ g.expand σ1).length := by
  induction fuel generalizing σ vb with
  | zero => exact absurd h0 (Nat.lt_irrefl 0)
  | succ fuel ih =>
    unfold readVB
    by_cases h2 : vb.length < 2
    · rw [if_pos h2]
      cases σ with
      | nil => exact absurd hlen (Nat.not_le.mpr h2)
      | cons r σ' =>
        have hrl : 1 ≤ (g.expandSym r).length := List.length_pos_iff.mpr (hne r List.mem_cons_self)
        have hlen' : 2 ≤ (vb ++ g.expandSym r).length + (g.expand σ').length := by
          rw [List.length_append, Nat.add_assoc, ← List.length_append, ← expand_cons]
          exact hlen
        have hf1 : 2 < fuel + (vb.length + 1) := Nat.add_right_comm fuel 1 _ ▸ hf
        have hf' : 2 < fuel + (vb ++ g.expandSym r).length := by
          rw [List.length_append]
          exact Nat.lt_of_lt_of_le hf1 (Nat.add_le_add_left (Nat.add_le_add_left hrl _) _)
        have h0' : 0 < fuel := Nat.lt_of_add_lt_add_right (Nat.lt_of_lt_of_le hf1 (Nat.add_le_add_left h2 fuel))
        obtain ⟨σ1, σ2, hs, hread, hl⟩ :=
          ih σ' (vb ++ g.expandSym r) (fun x hx => hne x (List.mem_cons_of_mem _ hx)) hlen' hf' h0'
        rw [List.append_assoc, ← expand_cons] at hread hl
        exact ⟨r :: σ1, σ2, by rw [hs]; rfl, hread, hl⟩
    · rw [if_neg h2]
      exact ⟨[], σ, rfl, congrArg (fun v => some (v, σ ++ τ)) (List.append_nil vb).symm,
        (List.append_nil vb).symm ▸ Nat.le_of_not_lt h2⟩

theorem readTail_spec (g : Grammar) (mc fuel : Nat) (σ τ str X : List Nat) (hne : ∀ r ∈ σ, g.expandSym r ≠ [])
    (hs : str ≠ []) (heq : str ++ g.expand σ = X ++ [mc]) (hm : mc ∉ X) (hf : σ.length < fuel) :
    readTail g mc fuel (σ ++ τ) str = some (X ++ [mc], τ) := by
  induction fuel generalizing σ str with
  | zero => exact absurd hf (Nat.not_lt_zero _)
  | succ fuel ih =>
    unfold readTail
    obtain ⟨str', l, rfl⟩ : ∃ str' l, str = str' ++ [l] := ⟨_, _, (List.dropLast_concat_getLast hs).symm⟩
    rw [List.getLast?_concat]
    simp only
    by_cases hlm : l = mc
    · subst hlm
      obtain ⟨h1, h2⟩ := ListIdx.mark_unique heq hm
      cases σ with
      | nil => rw [if_pos rfl, h1]; rfl
      | cons r σ' =>
        rw [expand_cons] at h2
        exact absurd (List.append_eq_nil_iff.mp h2).1 (hne r List.mem_cons_self)
    · rw [if_neg hlm]
      cases σ with
      | nil =>
        rw [show g.expand [] = [] from rfl, List.append_nil] at heq
        exact absurd (List.cons.inj (List.append_inj' heq rfl).2).1 hlm
      | cons r σ' =>
        rw [expand_cons, ← List.append_assoc] at heq
        exact ih σ' _ (fun x hx => hne x (List.mem_cons_of_mem _ hx)) (List.append_ne_nil_of_left_ne_nil hs _) heq
          (Nat.lt_of_succ_lt_succ hf)

/-- `decodeString` on a stream that stores `cur` after `prev`. -/
theorem decodeString_spec (d : D) (prev cur : Str) (σ τ : List Nat)
    (hσ : d.g.expand σ = entry d.maxchar prev cur) (hne : ∀ r ∈ σ, d.g.expandSym r ≠ [])
    (hl : lcp prev cur < 16384) (hsuf : cur.drop (lcp prev cur) ≠ [])
    (hmc : ∀ b ∈ cur, b.toNat ≠ d.maxchar) :
    decodeString d prev (σ ++ τ) = some (lcp prev cur, cur, τ) := by
  have hElen : (VByte.encode (lcp prev cur)).length ≤ 2 :=
    VByte.encode_length_le (lcp prev cur) 2 Nat.zero_lt_two hl
  have hEpos := VByte.encode_length_pos (lcp prev cur)
  have hsufl := List.length_pos_iff.mpr hsuf
  obtain ⟨σ1, σ2, hs, hread, hvl⟩ := readVB_spec d.g 3 σ τ [] hne
    (by rw [hσ]; simp only [entry, natsOf, List.length_append, List.length_map, List.length_cons, List.length_nil]; omega)
    (Nat.lt_succ_self 2) (Nat.succ_pos 2)
  rw [List.nil_append] at hread hvl
  -- `w`: what `readVB` read beyond the VByte (the start of the suffix, perhaps the mark)
  have hE : (natsOf (VByte.encode (lcp prev cur))).length = (VByte.encode (lcp prev cur)).length := List.length_map _
  rw [hs, expand_append, entry, List.append_assoc] at hσ
  obtain ⟨w, hw, hrest⟩ := ListIdx.append_split hσ (Nat.le_trans (hE.symm ▸ hElen) hvl)
  have hbytes : toBytes (d.g.expand σ1) = VByte.encode (lcp prev cur) ++ toBytes w := by
    rw [hw, toBytes, List.map_append]; exact congrArg (· ++ _) (toBytes_natsOf _)
  have hne2 : ∀ r ∈ σ2, d.g.expandSym r ≠ [] := fun r hr => hne r (by rw [hs]; exact List.mem_append_right _ hr)
  have hX : natsOf (prev.take (lcp prev cur)) ++ w ++ d.g.expand σ2 = natsOf cur ++ [d.maxchar] := by
    rw [List.append_assoc, ← hrest, ← List.append_assoc, ← natsOf_append, take_lcp_append_drop]
  have hmem : d.maxchar ∉ natsOf cur := fun h => by
    obtain ⟨b, hb, he⟩ := List.mem_map.mp h
    exact hmc b hb he
  -- `readTail` looks at the last byte first: there is one, since with `lcp = 0` the VByte is a single byte
  have hstr_ne : natsOf (prev.take (lcp prev cur)) ++ w ≠ [] := fun h => by
    obtain ⟨h1, hw0⟩ := List.append_eq_nil_iff.mp h
    have hl0 : lcp prev cur = 0 := by
      have := congrArg List.length h1
      rwa [natsOf, List.length_map, List.length_take_of_le (lcp_le_left prev cur)] at this
    rw [hw, hw0, hl0, VByte.encode_of_le (by decide)] at hvl
    exact absurd hvl (by decide)
  unfold decodeString
  rw [hread]
  simp only [hbytes, VByte.decode_encode, Nat.not_lt.mpr (lcp_le_left prev cur), ↓reduceIte]
  rw [hw, ← hE, List.drop_left, show (List.take (lcp prev cur) (List.map (fun x => x.toNat) prev)).append w
      = natsOf (prev.take (lcp prev cur)) ++ w from congrArg (· ++ w) (natsOf_take prev _),
    readTail_spec d.g d.maxchar _ σ2 τ _ (natsOf cur) hne2 hstr_ne hX hmem
      (Nat.lt_succ_of_le (List.length_append ▸ Nat.le_add_right _ _))]
  simp only [List.dropLast_concat, toBytes_natsOf]

end CSD.RPFC
