import CSD.Model.RePair

/-! Re-Pair grammars: the expansion table is built in rule order, so a symbol stands for the same string whatever
rules follow it, and every run of replacement rounds keeps the expansion of the sequence. -/
namespace CSD.RePair

theorem expandWith_append (t : Nat) (table extra : List (List Nat)) (s : Nat) (h : s < t + table.length) :
    expandWith t (table ++ extra) s = expandWith t table s := by
  unfold expandWith
  by_cases hlt : s < t
  · rw [if_pos hlt, if_pos hlt]
  · rw [if_neg hlt, if_neg hlt, List.getD_eq_getElem?_getD, List.getD_eq_getElem?_getD,
      List.getElem?_append_left (Nat.sub_lt_left_of_lt_add (Nat.le_of_not_lt hlt) h)]

theorem buildTable_prefix (t : Nat) (rules : List (Nat × Nat)) : ∀ (table : List (List Nat)),
    ∃ extra, buildTable t rules table = table ++ extra ∧ extra.length = rules.length := by
  induction rules with
  | nil => exact fun table => ⟨[], (List.append_nil table).symm, rfl⟩
  | cons ab rest ih =>
    intro table
    obtain ⟨extra, he, hl⟩ := ih (table ++ [expandWith t table ab.1 ++ expandWith t table ab.2])
    exact ⟨_ :: extra, he.trans (List.append_assoc ..), congrArg (· + 1) hl⟩

theorem buildTable_append (t : Nat) (r1 r2 : List (Nat × Nat)) : ∀ (table : List (List Nat)),
    buildTable t (r1 ++ r2) table = buildTable t r2 (buildTable t r1 table) := by
  induction r1 with
  | nil => exact fun _ => rfl
  | cons ab r1 ih => exact fun table => ih _

theorem table_length (g : Grammar) : g.table.length = g.rules.length := by
  obtain ⟨extra, he, hl⟩ := buildTable_prefix g.terminals g.rules []
  unfold Grammar.table; rw [he]; simpa using hl

theorem expandSym_append (g : Grammar) (extra : List (Nat × Nat)) (s : Nat) (hs : s < g.terminals + g.rules.length) :
    ({ g with rules := g.rules ++ extra } : Grammar).expandSym s = g.expandSym s := by
  have hl := table_length g
  obtain ⟨ex, he, _⟩ := buildTable_prefix g.terminals extra g.table
  simp only [Grammar.expandSym, Grammar.table, buildTable_append] at hl he ⊢
  rw [he]
  exact expandWith_append _ _ _ _ (hl ▸ hs)

theorem expandSym_new (g : Grammar) (a b : Nat) :
    ({ g with rules := g.rules ++ [(a, b)] } : Grammar).expandSym (g.terminals + g.rules.length)
      = g.expandSym a ++ g.expandSym b := by
  have hl := table_length g
  simp only [Grammar.expandSym, Grammar.table, buildTable_append, buildTable, expandWith] at hl ⊢
  rw [if_neg (Nat.not_lt.mpr (Nat.le_add_right _ _)), Nat.add_sub_cancel_left, ← hl,
    List.getD_eq_getElem?_getD, List.getElem?_concat_length]
  rfl

theorem wellFounded_cons {t k a b : Nat} {rest : List (Nat × Nat)} :
    wellFounded t k ((a, b) :: rest) = true ↔ (a < t + k ∧ b < t + k) ∧ wellFounded t (k + 1) rest = true := by
  show (decide _ && decide _ && _) = true ↔ _
  rw [Bool.and_eq_true, Bool.and_eq_true, decide_eq_true_eq, decide_eq_true_eq]

theorem wellFounded_get (t : Nat) (rules : List (Nat × Nat)) : ∀ (k0 : Nat), wellFounded t k0 rules = true →
    ∀ i (hi : i < rules.length), rules[i].1 < t + (k0 + i) ∧ rules[i].2 < t + (k0 + i) := by
  induction rules with
  | nil => exact fun _ _ i hi => absurd hi (Nat.not_lt_zero i)
  | cons ab rest ih =>
    intro k0 h i hi
    have h := wellFounded_cons.mp h
    cases i with
    | zero => exact h.1
    | succ i =>
      have := ih (k0 + 1) h.2 i (Nat.lt_of_succ_lt_succ hi)
      rw [Nat.add_right_comm] at this
      exact this

theorem Grammar.sides_lt (g : Grammar) (hwf : g.wf = true) (k : Nat) (hk : k < g.rules.length) :
    g.rules[k].1 < g.terminals + k ∧ g.rules[k].2 < g.terminals + k := by
  simpa only [Nat.zero_add] using wellFounded_get g.terminals g.rules 0 hwf k hk

theorem expandSym_term (g : Grammar) (s : Nat) (hs : s < g.terminals) : g.expandSym s = [s] := by
  simp [Grammar.expandSym, expandWith, hs]

theorem expandSym_rule (g : Grammar) (hwf : g.wf = true) (k : Nat) (hk : k < g.rules.length) :
    g.expandSym (g.terminals + k) = g.expandSym g.rules[k].1 ++ g.expandSym g.rules[k].2 := by
  have hab := g.sides_lt hwf k hk
  have hsplit : g.rules = g.rules.take k ++ g.rules[k] :: g.rules.drop (k + 1) := by
    rw [← List.drop_eq_getElem_cons hk, List.take_append_drop]
  have hl : (g.rules.take k).length = k := List.length_take_of_le (Nat.le_of_lt hk)
  generalize g.rules[k] = ab at hab hsplit
  obtain ⟨t, rules⟩ := g
  obtain ⟨a, b⟩ := ab
  simp only at hsplit hl hab ⊢
  rw [hsplit]
  generalize List.take k rules = pre at hl
  subst hl
  -- the rules behind `(a, b)` change nothing, and both sides are symbols of `pre`
  rw [expandSym_append ⟨t, pre⟩ _ a hab.1, expandSym_append ⟨t, pre⟩ _ b hab.2,
    ← expandSym_new ⟨t, pre⟩ a b, ← List.singleton_append, ← List.append_assoc,
    expandSym_append ⟨t, pre ++ [(a, b)]⟩ _ _ (by simp)]

theorem expandSym_ne_nil (g : Grammar) (hwf : g.wf = true) : ∀ (s : Nat), s < g.terminals + g.rules.length →
    g.expandSym s ≠ [] := by
  intro s
  induction s using Nat.strongRecOn with
  | _ s ih =>
    intro hs
    by_cases ht : s < g.terminals
    · rw [expandSym_term g s ht]
      exact List.cons_ne_nil _ _
    · obtain ⟨k, rfl⟩ := Nat.exists_eq_add_of_le (Nat.le_of_not_lt ht)
      have hk : k < g.rules.length := Nat.lt_of_add_lt_add_left hs
      have ha := (g.sides_lt hwf k hk).1
      rw [expandSym_rule g hwf k hk]
      exact fun h => ih _ ha (Nat.lt_trans ha (Nat.add_lt_add_left hk _)) (List.append_eq_nil_iff.mp h).1

theorem expand_append (g : Grammar) (a b : List Nat) : g.expand (a ++ b) = g.expand a ++ g.expand b :=
  List.flatMap_append

theorem expand_cons (g : Grammar) (r : Nat) (a : List Nat) : g.expand (r :: a) = g.expandSym r ++ g.expand a :=
  List.flatMap_cons

/-- **One replacement round is lossless**: replacing occurrences of `(a, b)` by the
fresh symbol, and recording the rule, leaves the expansion of the sequence unchanged. -/
theorem expand_step (g : Grammar) (a b : Nat) (seq seq' : List Nat)
    (hvalid : ∀ x ∈ seq, x < g.terminals + g.rules.length)
    (hr : Repl a b (g.terminals + g.rules.length) seq seq') :
    ({ g with rules := g.rules ++ [(a, b)] } : Grammar).expand seq' = g.expand seq := by
  induction hr with
  | nil => rfl
  | keep x _ ih =>
    have hv := List.forall_mem_cons.mp hvalid
    rw [expand_cons, expand_cons, expandSym_append g [(a, b)] x hv.1, ih hv.2]
  | replace _ ih =>
    rw [expand_cons, expand_cons, expand_cons, expandSym_new,
      ih (List.forall_mem_cons.mp (List.forall_mem_cons.mp hvalid).2).2, List.append_assoc]

theorem repl_valid (a b n : Nat) (seq seq' : List Nat) (hr : Repl a b n seq seq') (bound : Nat)
    (hvalid : ∀ x ∈ seq, x < bound) (hn : n < bound + 1) : ∀ x ∈ seq', x < bound + 1 := by
  induction hr with
  | nil => exact fun _ hx => nomatch hx
  | keep y _ ih =>
    have hv := List.forall_mem_cons.mp hvalid
    exact List.forall_mem_cons.mpr ⟨Nat.lt_succ_of_lt hv.1, ih hv.2⟩
  | replace _ ih =>
    exact List.forall_mem_cons.mpr ⟨hn, ih (List.forall_mem_cons.mp (List.forall_mem_cons.mp hvalid).2).2⟩

theorem lt_two_pow_bits (n : Nat) : n < 2 ^ bits n := by
  unfold bits
  split
  · subst_vars; simp
  · exact Nat.lt_log2_self

/-- Any number of Re-Pair rounds (any choice of pairs with both sides ≠ 0 and of
occurrences). -/
inductive Run : Grammar → List Nat → Grammar → List Nat → Prop where
  | refl (g : Grammar) (seq : List Nat) : Run g seq g seq
  | step {g g' : Grammar} {seq seq1 seq' : List Nat} (a b : Nat)
      (ha : a ≠ 0) (hb : b ≠ 0)
      (hva : a < g.terminals + g.rules.length) (hvb : b < g.terminals + g.rules.length)
      (hr : Repl a b (g.terminals + g.rules.length) seq seq1)
      (rest : Run { g with rules := g.rules ++ [(a, b)] } seq1 g' seq') : Run g seq g' seq'

/-- **Re-Pair is lossless for every run**: whatever pairs and occurrences are chosen, the final sequence expands
under the final grammar to what the original sequence expanded to. -/
theorem expand_run {g g' : Grammar} {seq seq' : List Nat} (h : Run g seq g' seq')
    (hvalid : ∀ x ∈ seq, x < g.terminals + g.rules.length) : g'.expand seq' = g.expand seq := by
  induction h with
  | refl => rfl
  | @step g g' seq seq1 seq' a b _ _ _ _ hr _ ih =>
    rw [ih fun x hx => by
      rw [List.length_append]
      exact repl_valid a b _ seq seq1 hr _ hvalid (Nat.lt_succ_self _) x hx]
    exact expand_step g a b seq seq1 hvalid hr

theorem zeroFree_run {g g' : Grammar} {seq seq' : List Nat} (h : Run g seq g' seq')
    (hz : g.zeroFree = true) : g'.zeroFree = true := by
  induction h with
  | refl => exact hz
  | @step g g' seq seq1 seq' a b ha hb _ _ _ _ ih =>
    apply ih
    simp only [Grammar.zeroFree, List.all_append, List.all_cons, List.all_nil, Bool.and_true,
      Bool.and_eq_true, bne_iff_ne, ne_eq]
    exact ⟨hz, ha, hb⟩

theorem wellFounded_append (t : Nat) (rules : List (Nat × Nat)) (a b : Nat) : ∀ (k : Nat),
    wellFounded t k rules = true → a < t + (k + rules.length) → b < t + (k + rules.length) →
    wellFounded t k (rules ++ [(a, b)]) = true := by
  induction rules with
  | nil => exact fun k _ ha hb => wellFounded_cons.mpr ⟨⟨ha, hb⟩, rfl⟩
  | cons xy rest ih =>
    intro k h ha hb
    rw [List.length_cons, ← Nat.add_assoc k, Nat.add_right_comm k] at ha hb
    have h := wellFounded_cons.mp h
    exact wellFounded_cons.mpr ⟨h.1, ih (k + 1) h.2 ha hb⟩

theorem wf_run {g g' : Grammar} {seq seq' : List Nat} (h : Run g seq g' seq')
    (hw : g.wf = true) : g'.wf = true := by
  induction h with
  | refl => exact hw
  | @step g g' seq seq1 seq' a b _ _ hva hvb _ _ ih =>
    apply ih
    unfold Grammar.wf at hw ⊢
    exact wellFounded_append g.terminals g.rules a b 0 hw (by rwa [Nat.zero_add]) (by rwa [Nat.zero_add])

end CSD.RePair
