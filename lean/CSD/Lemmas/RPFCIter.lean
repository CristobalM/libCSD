import CSD.Lemmas.RPFCPrefix

/-! The string iterator (`IteratorDictStringRPFC`) on an object that stores the dictionary, by the position it stands at
(`Before`): table scan, range scans and `extractPrefix` are exact. -/
namespace CSD.RPFC
open CSD.PFC

/-- The iterator stands in front of member `k·b + o` of `S`: at the edge of bucket `k` (0-based) with nothing
left of the stream behind it, or inside the bucket with the stream storing the bucket's strings from
position `o` on. -/
inductive Before (S : List Str) (d : D) (it : SIter) : Nat → Nat → Prop
  | edge (k : Nat) : it.st = [] → it.pos % d.bucketsize = 0 → it.nextBucket = k + 1 → Before S d it k 0
  | inside (k o : Nat) : it.pos = o + 1 → it.nextBucket = k + 2 →
      StoresTail d.g d.maxchar it.cur ((S.drop (k * d.bucketsize + (o + 1))).take (d.bucketsize - (o + 1))) it.st →
      ChainOK d.maxchar it.cur ((S.drop (k * d.bucketsize + (o + 1))).take (d.bucketsize - (o + 1))) →
      Before S d it k (o + 1)

section
variable {S : List Str} {d : D}

theorem iterNext_before (hst : Stores S d) {it : SIter} {k o : Nat} (h : Before S d it k o)
    (ho : o < d.bucketsize) (hn : k * d.bucketsize + o < S.length) :
    ∃ it', iterNext d it = some (S[k * d.bucketsize + o], it') ∧ it'.processed = it.processed + 1 ∧
      it'.scanneable = it.scanneable ∧ Before S d it' k (o + 1) := by
  cases h with
  | edge hs hp hnb =>
    obtain ⟨σ, hhdr, hstr, hstores, hchain⟩ := bucket_stores hst k hn
    refine ⟨⟨it.nextBucket + 1, 1, σ, S[k * d.bucketsize], it.processed + 1, it.scanneable⟩, ?_, rfl, rfl,
      .inside k 0 rfl (by simp only [hnb]) hstores hchain⟩
    simp only [iterNext, hp, hs, hnb, hhdr, hstr, ↓reduceIte, ne_eq, not_true_eq_false]
    rfl
  | inside o hp hnb hstores hchain =>
    rw [take_drop_cons S _ _ hn (Nat.sub_pos_of_lt ho)] at hstores hchain
    obtain ⟨τ, hdec, htail, hch'⟩ := decodeString_storesTail d hstores hchain
    have hmod : ¬ it.pos % d.bucketsize = 0 := by rw [hp, Nat.mod_eq_of_lt ho]; exact Nat.succ_ne_zero o
    rw [Nat.sub_sub] at htail hch'
    refine ⟨⟨it.nextBucket, it.pos + 1, τ, S[k * d.bucketsize + (o + 1)], it.processed + 1, it.scanneable⟩, ?_, rfl, rfl,
      .inside k (o + 1) (by simp only [hp]) hnb htail hch'⟩
    simp only [iterNext, hmod, hdec, ↓reduceIte]

theorem drain_done (d : D) (f : Nat) (it : SIter) (h : it.scanneable ≤ it.processed) : drain d f it = some [] := by
  cases f with
  | zero => rfl
  | succ f => rw [drain, show it.hasNext = false from decide_eq_false (Nat.not_lt.mpr h), if_neg Bool.false_ne_true]

/-- The far edge of a bucket (`o = b`, nothing left of its stream) is the near edge of the next. -/
theorem Before.norm {it : SIter} {k o : Nat} (h : Before S d it k o) (ho : o ≤ d.bucketsize) (hb : 0 < d.bucketsize) :
    ∃ k' o', o' < d.bucketsize ∧ k' * d.bucketsize + o' = k * d.bucketsize + o ∧ Before S d it k' o' := by
  rcases Nat.lt_or_eq_of_le ho with h' | h'
  · exact ⟨k, o, h', rfl, h⟩
  · refine ⟨k + 1, 0, hb, by rw [Nat.succ_mul, h']; rfl, ?_⟩
    cases h with
    | edge => exact absurd (h' ▸ hb) (Nat.lt_irrefl 0)
    | inside o hp hn hst _ =>
      rw [h', Nat.sub_self, List.take_zero] at hst
      cases hs : it.st with
      | nil => exact .edge _ hs (by rw [hp, h', Nat.mod_self]) hn
      | cons _ _ => rw [hs] at hst; cases hst

/-- From position `n = k·b + o`, `m` strings before the limit, fuel `f ≥ m`: the next `m` members. -/
theorem drain_before (hst : Stores S d) (f m : Nat) (it : SIter) (k o n : Nat) (hB : Before S d it k o)
    (ho : o ≤ d.bucketsize) (hpos : k * d.bucketsize + o = n) (hm : it.scanneable = it.processed + m) (hf : m ≤ f)
    (hlen : n + m ≤ S.length) : drain d f it = some ((S.drop n).take m) := by
  induction m generalizing f it k o n with
  | zero => exact drain_done d f it (Nat.le_of_eq hm)
  | succ m ih =>
    obtain ⟨f, rfl⟩ : ∃ g, f = g + 1 := ⟨f - 1, (Nat.sub_add_cancel (Nat.le_trans (Nat.succ_pos m) hf)).symm⟩
    obtain ⟨k', o', ho', hpos', hB'⟩ := hB.norm ho hst.pos
    rw [hpos] at hpos'
    subst hpos'
    have hn : k' * d.bucketsize + o' < S.length := Nat.lt_of_lt_of_le (Nat.lt_add_of_pos_right (Nat.succ_pos m)) hlen
    obtain ⟨it', hnext, hp, hs, hB''⟩ := iterNext_before hst hB' ho' hn
    have hhas : it.hasNext = true := by
      simp only [SIter.hasNext, decide_eq_true_eq, hm]; exact Nat.lt_add_of_pos_right (Nat.succ_pos m)
    rw [drain, hhas, if_pos rfl, hnext]
    simp only
    have hm' : it'.scanneable = it'.processed + m := by
      rw [hs, hp, hm, Nat.add_right_comm]
      rfl
    have hlen' : k' * d.bucketsize + (o' + 1) + m ≤ S.length := by
      rw [Nat.add_assoc, Nat.succ_add_eq_add_succ, ← Nat.add_assoc]
      exact hlen
    rw [ih f it' k' (o' + 1) _ hB'' ho' rfl hm' (Nat.le_of_succ_le_succ hf) hlen',
      take_drop_cons S _ _ hn (Nat.succ_pos m)]
    rfl

theorem iterOpen_before (hst : Stores S d) (k o sc : Nat) (ho : o < d.bucketsize)
    (hn : k * d.bucketsize + o < S.length) :
    ∃ it, iterOpen d (k + 1) o sc = some it ∧ it.processed = 0 ∧ it.scanneable = sc ∧ Before S d it k o := by
  cases o with
  | zero => exact ⟨_, rfl, rfl, rfl, .edge k rfl (Nat.zero_mod _) rfl⟩
  | succ o =>
    have hn' := Nat.lt_of_succ_lt hn
    obtain ⟨σ, hhdr, hstr, hstores, hchain⟩ := bucket_stores hst k (Nat.lt_of_le_of_lt (Nat.le_add_right _ o) hn')
    obtain ⟨x, σ', _, hdec, hst', hch'⟩ := decodeSteps_storesTail d _ _ σ o hstores hchain
      (tail_length_ge (Nat.lt_of_succ_lt ho) hn')
    have hrest : ((S.drop (k * d.bucketsize + 1)).take (d.bucketsize - 1)).drop o =
        (S.drop (k * d.bucketsize + (o + 1))).take (d.bucketsize - (o + 1)) := by
      rw [List.drop_take, List.drop_drop, Nat.add_assoc, Nat.add_comm 1 o, Nat.sub_sub, Nat.add_comm 1 o]
    rw [hrest] at hst' hch'
    refine ⟨⟨k + 1 + 1, o + 1, σ', x, 0, sc⟩, ?_, rfl, rfl, .inside k o rfl rfl hst' hch'⟩
    simp only [iterOpen, Nat.succ_pos, ↓reduceIte, hhdr, hstr, Nat.add_sub_cancel, hdec]

end

/-- **A range scan** yields the members with the IDs `left … right`, in order. -/
theorem scanRange_stores {S : List Str} {d : D} (hst : Stores S d) (left right : Nat)
    (h1 : 1 ≤ left) (h2 : left ≤ right) (h3 : right ≤ S.length) :
    scanRange d left right = some ((S.drop (left - 1)).take (right - left + 1)) := by
  have hlen : left - 1 < S.length ∧ right - left + 1 ≤ S.length ∧ left - 1 + (right - left + 1) ≤ S.length :=
    ⟨Nat.lt_of_lt_of_le (Nat.sub_lt h1 Nat.one_pos) (Nat.le_trans h2 h3),
      Nat.le_trans (Nat.sub_lt (Nat.lt_of_lt_of_le h1 h2) h1) h3,
      by rw [Nat.add_comm _ 1, ← Nat.add_assoc, Nat.sub_add_cancel h1, Nat.add_sub_cancel' h2]; exact h3⟩
  have hdecomp := Nat.div_add_mod' (left - 1) d.bucketsize
  have holt := Nat.mod_lt (left - 1) hst.pos
  unfold scanRange
  generalize (left - 1) / d.bucketsize = k at hdecomp ⊢
  generalize (left - 1) % d.bucketsize = offset at hdecomp holt ⊢
  obtain ⟨it, hopen, hp, hs, hB⟩ := iterOpen_before hst k offset (right - left + 1) holt (hdecomp ▸ hlen.1)
  rw [Nat.add_comm 1 k, hopen]
  simp only
  rw [drain_before hst _ _ it k offset _ hB (Nat.le_of_lt holt) hdecomp (by rw [hp, hs, Nat.zero_add])
    (hst.elements ▸ hlen.2.1) hlen.2.2]

/-- **`extractTable()`** yields the members in order; `hne` is idle. -/
theorem extractTable_stores {S : List Str} {d : D} (hst : Stores S d) (hne : S ≠ []) :
    extractTable d = some S := by
  have := drain_before hst d.elements S.length ⟨1, 0, [], [], 0, d.elements⟩ 0 0 0
    (.edge 0 rfl (Nat.zero_mod _) rfl) (Nat.zero_le _) (Nat.zero_mul _) (by rw [hst.elements, Nat.zero_add])
    (Nat.le_of_eq hst.elements.symm) (Nat.le_of_eq (Nat.zero_add _))
  rwa [List.drop_zero, List.take_length] at this

/-- **`extractPrefix`** yields the members with the prefix, in order, NULL if there is none. -/
theorem extractPrefix_stores {S : List Str} {d : D} (hst : Stores S d) (hne : S ≠ []) (hS : ∀ s ∈ S, nulFree s)
    (hsort : SortedLt S) (q : Str) (hq : nulFree q) :
    extractPrefix d q = some (if S.filter (isPrefix q) = [] then none else some (S.filter (isPrefix q))) := by
  obtain ⟨lo, hi, hloc, hchar⟩ := locatePrefix_stores hst hne hS hsort q hq
  unfold extractPrefix
  rw [hloc]
  simp only
  rcases hchar.filter_cases with ⟨rfl, hf⟩ | ⟨h1, h2, h3, hne', hf⟩
  · rw [if_pos rfl, if_pos hf]
  · rw [if_neg (Nat.ne_of_gt h1), scanRange_stores hst lo hi h1 h2 h3, ← hf, if_neg hne']

/-! Not used by others: `drain_buckets` and `open_drain` are instances of `drain_before` (their `n`, `hk` are idle),
`drain_tail` is one bucket's rest in one step, `drain_scan`: a smaller limit yields a prefix of the scan. -/

theorem drain_buckets {S : List Str} {d : D} (hst : Stores S d) : ∀ (n k pos : Nat) (cur : Str) (proc f : Nat),
    S.length - k * d.bucketsize = n → (S.length ≤ k * d.bucketsize ∨ pos % d.bucketsize = 0) →
    (S.drop (k * d.bucketsize)).length ≤ f →
    drain d f ⟨k + 1, pos, [], cur, proc, proc + (S.drop (k * d.bucketsize)).length⟩ = some (S.drop (k * d.bucketsize)) := by
  intro n k pos cur proc f _ hpos hf
  by_cases hend : S.length ≤ k * d.bucketsize
  · rw [List.drop_eq_nil_of_le hend]
    exact drain_done d f _ (Nat.le_refl _)
  · rw [drain_before hst f _ ⟨k + 1, pos, [], cur, proc, proc + (S.drop (k * d.bucketsize)).length⟩ k 0 _
      (.edge k rfl (hpos.resolve_left hend) rfl) (Nat.zero_le _) rfl rfl hf
      (by rw [List.length_drop]; exact Nat.le_of_eq (Nat.add_sub_cancel' (Nat.le_of_not_le hend))),
      Nat.add_zero, List.take_length]

theorem open_drain {S : List Str} {d : D} (hst : Stores S d) (k offset : Nat) (hk : k * d.bucketsize < S.length)
    (ho : offset < min d.bucketsize (S.length - k * d.bucketsize)) (f : Nat) (hf : S.length ≤ f) :
    ∃ it, iterOpen d (k + 1) offset (S.length - (k * d.bucketsize + offset)) = some it ∧
      it.processed = 0 ∧ it.scanneable = S.length - (k * d.bucketsize + offset) ∧
      drain d f it = some (S.drop (k * d.bucketsize + offset)) := by
  have ho1 : offset < d.bucketsize := Nat.lt_of_lt_of_le ho (Nat.min_le_left _ _)
  have hn : k * d.bucketsize + offset < S.length := Nat.add_lt_of_lt_sub' (Nat.lt_of_lt_of_le ho (Nat.min_le_right _ _))
  obtain ⟨it, hopen, hp, hs, hB⟩ := iterOpen_before hst k offset (S.length - (k * d.bucketsize + offset)) ho1 hn
  refine ⟨it, hopen, hp, hs, ?_⟩
  rw [drain_before hst f _ it k offset _ hB (Nat.le_of_lt ho1) rfl (by rw [hp, hs, Nat.zero_add])
    (Nat.le_trans (Nat.sub_le _ _) hf) (by rw [Nat.add_sub_cancel' (Nat.le_of_lt hn)]; exact Nat.le_refl _),
    ← List.length_drop, List.take_length]

theorem drain_tail (d : D) : ∀ (L : List Str) (cur : Str) (σ : List Nat) (nb pos proc scan f : Nat),
    StoresTail d.g d.maxchar cur L σ → ChainOK d.maxchar cur L →
    1 ≤ pos → pos + L.length ≤ d.bucketsize → proc + L.length ≤ scan →
    drain d (L.length + f) ⟨nb, pos, σ, cur, proc, scan⟩ =
      (drain d f ⟨nb, pos + L.length, [], lastOf cur L, proc + L.length, scan⟩).map (L ++ ·) := by
  intro L
  induction L with
  | nil =>
    intro cur σ nb pos proc scan f hst _ _ _ _
    cases hst
    simp only [List.length_nil, Nat.zero_add, Nat.add_zero, lastOf, List.nil_append]
    exact Option.map_id'.symm
  | cons s L ih =>
    intro cur σ nb pos proc scan f hst hch h1 h2 h3
    obtain ⟨τ, hdec, htail, hch'⟩ := decodeString_storesTail d hst hch
    rw [List.length_cons, ← Nat.add_assoc] at h2 h3
    have hhas : (⟨nb, pos, σ, cur, proc, scan⟩ : SIter).hasNext = true :=
      decide_eq_true (Nat.lt_of_lt_of_le (Nat.lt_succ_of_le (Nat.le_add_right _ _)) h3)
    have hmod : ¬ pos % d.bucketsize = 0 := by
      rw [Nat.mod_eq_of_lt (Nat.lt_of_lt_of_le (Nat.lt_succ_of_le (Nat.le_add_right _ _)) h2)]
      exact Nat.ne_of_gt h1
    rw [Nat.add_right_comm pos] at h2
    rw [Nat.add_right_comm proc] at h3
    rw [List.length_cons, Nat.add_right_comm, drain, hhas]
    simp only [↓reduceIte, iterNext, hmod, hdec]
    rw [ih s τ nb (pos + 1) (proc + 1) scan f htail hch' (Nat.le_add_left 1 pos) h2 h3,
      Nat.add_assoc pos 1, Nat.add_assoc proc 1, Nat.add_comm 1 L.length, lastOf]
    cases drain d f _ <;> rfl

/-- `next()` never reads `scanneable`. -/
theorem iterNext_scan (d : D) (m : Nat) {it it' : SIter} {s : Str} (h : iterNext d it = some (s, it')) :
    it'.processed = it.processed + 1 ∧ it'.scanneable = it.scanneable ∧
      iterNext d { it with scanneable := m } = some (s, { it' with scanneable := m }) := by
  unfold iterNext at h
  split at h
  · split at h
    · cases h
    · split at h
      · cases h
        simp only [iterNext, *, ↓reduceIte, and_self]
      · cases h
  · split at h
    · cases h
    · cases h
      simp only [iterNext, *, ↓reduceIte, and_self]

theorem drain_scan (d : D) : ∀ (f : Nat) (it : SIter) (l : List Str), drain d f it = some l →
    ∀ m, it.processed ≤ m → m ≤ it.scanneable →
      drain d f { it with scanneable := m } = some (l.take (m - it.processed)) := by
  intro f
  induction f with
  | zero =>
    intro it l h m _ _
    cases h
    exact congrArg some List.take_nil.symm
  | succ f ih =>
    intro it l h m h1 h2
    rw [drain] at h ⊢
    by_cases hm : it.processed < m
    · rw [show it.hasNext = true from decide_eq_true (Nat.lt_of_lt_of_le hm h2), if_pos rfl] at h
      rw [show ({ it with scanneable := m } : SIter).hasNext = true from decide_eq_true hm, if_pos rfl]
      cases hn : iterNext d it with
      | none => rw [hn] at h; cases h
      | some p =>
        obtain ⟨hp, hs, hn'⟩ := iterNext_scan d m hn
        rw [hn] at h
        rw [hn']
        simp only at h ⊢
        cases hd : drain d f p.2 with
        | none => rw [hd] at h; cases h
        | some l' =>
          rw [hd] at h
          cases h
          rw [ih p.2 l' hd m (hp ▸ hm) (hs ▸ h2), hp, show m - it.processed = m - (it.processed + 1) + 1 from
            (Nat.add_sub_add_right m 1 _).symm.trans (Nat.sub_add_comm hm), List.take_succ_cons]
    · rw [show ({ it with scanneable := m } : SIter).hasNext = false from decide_eq_false hm,
        Nat.sub_eq_zero_of_le (Nat.le_of_not_lt hm)]
      rfl

end CSD.RPFC
