import CSD.Lemmas.FMDict
import CSD.Lemmas.RPDACLocate
import CSD.Lemmas.RPFCLocate

/-!
  A dictionary kind *refines the specification* when its `locate` is `Spec.locate` and its `extract` is
  `Spec.extract` on a strictly sorted `S`. The round trips, the answers for absent strings and bad IDs, monotonicity and
  the independence of the parameters follow from that alone; the four order-preserving kinds are instances. For the hash
  kinds, whose IDs are not ranks, `round_trip_agree` says what two dictionaries over the same `S` share.
-/
namespace CSD
open CSD.PFC

/-- `locate` answers every query of its domain `dom` as the specification does. (`dom` is `nulFree`, or
`·.all validByte` for the FM-index.) -/
structure RefinesLocate (S : List Str) (dom : Str → Prop) (locate : Str → Option Nat) : Prop where
  sorted : SortedLt S
  mem_dom : ∀ s ∈ S, dom s
  locate_eq : ∀ q, dom q → locate q = some (Spec.locate S q)

namespace RefinesLocate
variable {S : List Str} {dom dom' : Str → Prop} {locate locate' : Str → Option Nat}

theorem locate_rank (r : RefinesLocate S dom locate) (i : Nat) (hi : i < S.length) : locate S[i] = some (i + 1) := by
  rw [r.locate_eq _ (r.mem_dom _ (List.getElem_mem hi)), Spec.locate_getElem r.sorted i hi]

theorem locate_mono (r : RefinesLocate S dom locate) (s t : Str) (hs : s ∈ S) (ht : t ∈ S) (hlt : scmp s t < 0) :
    ∃ i j, locate s = some i ∧ locate t = some j ∧ i < j := by
  obtain ⟨a, ha, rfl⟩ := List.mem_iff_getElem.mp hs
  obtain ⟨c, hc, rfl⟩ := List.mem_iff_getElem.mp ht
  exact ⟨a + 1, c + 1, r.locate_rank a ha, r.locate_rank c hc, Nat.succ_lt_succ (r.sorted.lt_of_scmp_lt ha hc hlt)⟩

theorem locate_absent (r : RefinesLocate S dom locate) (q : Str) (hq : dom q) (habs : q ∉ S) : locate q = some 0 := by
  rw [r.locate_eq q hq, Spec.locate_not_mem habs]

theorem locate_sound (r : RefinesLocate S dom locate) (q : Str) (hq : dom q) (i : Nat) (hi : 0 < i)
    (h : locate q = some i) : S[i - 1]? = some q := by
  rw [r.locate_eq q hq] at h
  cases h
  exact Spec.getElem?_locate hi

theorem agree (r : RefinesLocate S dom locate) (r' : RefinesLocate S dom' locate') (q : Str) (h : dom q)
    (h' : dom' q) : locate q = locate' q := by
  rw [r.locate_eq q h, r'.locate_eq q h']

end RefinesLocate

/-- `extract` returns the member with that rank for the IDs `1 … n` and nothing for every other ID; this half needs no
order on `S`. `wrap` is how the kind presents the result (`some`, `Option.map bytesNat`, `some ∘ Option.map symsOf`). -/
structure RefinesExtract {R : Type} (S : List Str) (extract : Nat → R) (wrap : Option Str → R) : Prop where
  extract_in : ∀ i (hi : i < S.length), extract (i + 1) = wrap (some S[i])
  extract_out : ∀ i, i = 0 ∨ i > S.length → extract i = wrap none

namespace RefinesExtract
variable {R : Type} {S : List Str} {extract extract' : Nat → R} {wrap : Option Str → R}

theorem extract_eq (r : RefinesExtract S extract wrap) : ∀ i, extract i = wrap (Spec.extract S i)
  | 0 => r.extract_out 0 (Or.inl rfl)
  | j + 1 => by
    rcases Nat.lt_or_ge j S.length with h | h
    · rw [r.extract_in j h, Spec.extract_succ h]
    · rw [r.extract_out _ (Or.inr (Nat.lt_succ_of_le h)), Spec.extract_bad (Or.inr (Nat.lt_succ_of_le h))]

theorem agree (r : RefinesExtract S extract wrap) (r' : RefinesExtract S extract' wrap) (i : Nat) :
    extract i = extract' i := by
  rw [r.extract_eq, r'.extract_eq]

end RefinesExtract

structure Refines {R : Type} (S : List Str) (dom : Str → Prop) (locate : Str → Option Nat) (extract : Nat → R)
    (wrap : Option Str → R) : Prop extends RefinesLocate S dom locate, RefinesExtract S extract wrap

namespace Refines
variable {R : Type} {S : List Str} {dom : Str → Prop} {locate : Str → Option Nat} {extract : Nat → R}
  {wrap : Option Str → R}

theorem round_trip (r : Refines S dom locate extract wrap) (i : Nat) (hi : i < S.length) :
    locate S[i] = some (i + 1) ∧ extract (i + 1) = wrap (some S[i]) :=
  ⟨r.locate_rank i hi, r.extract_in i hi⟩

theorem locate_then_extract (r : Refines S dom locate extract wrap) (s : Str) (hs : s ∈ S) :
    ∃ i, 1 ≤ i ∧ i ≤ S.length ∧ locate s = some i ∧ extract i = wrap (some s) := by
  obtain ⟨t, ht, rfl⟩ := List.mem_iff_getElem.mp hs
  exact ⟨t + 1, Nat.succ_pos t, ht, r.locate_rank t ht, r.extract_in t ht⟩

theorem extract_then_locate (r : Refines S dom locate extract wrap) :
    ∀ (i : Nat), 1 ≤ i → i ≤ S.length → ∃ s, s ∈ S ∧ extract i = wrap (some s) ∧ locate s = some i
  | j + 1, _, h => ⟨S[j], List.getElem_mem h, r.extract_in j h, r.locate_rank j h⟩

end Refines

/-- What the hash kinds promise instead (their IDs are not ranks): members get an ID in `1 … n` that extracts back
to them, every other string gets 0. -/
theorem round_trip_agree {S : List Str} {l₁ l₂ : Str → Nat} {e₁ e₂ : Nat → Option Str}
    (m₁ : ∀ s ∈ S, 1 ≤ l₁ s ∧ l₁ s ≤ S.length ∧ e₁ (l₁ s) = some s) (a₁ : ∀ q, q ∉ S → l₁ q = 0)
    (m₂ : ∀ s ∈ S, 1 ≤ l₂ s ∧ l₂ s ≤ S.length ∧ e₂ (l₂ s) = some s) (a₂ : ∀ q, q ∉ S → l₂ q = 0) (q : Str) :
    (l₁ q = 0 ↔ l₂ q = 0) ∧ (q ∈ S → e₁ (l₁ q) = e₂ (l₂ q)) := by
  refine ⟨?_, fun hq => (m₁ q hq).2.2.trans (m₂ q hq).2.2.symm⟩
  by_cases hq : q ∈ S
  · exact iff_of_false (Nat.ne_of_gt (m₁ q hq).1) (Nat.ne_of_gt (m₂ q hq).1)
  · exact iff_of_true (a₁ q hq) (a₂ q hq)

theorem PFC.refinesExtract (b : Nat) {S : List Str} (hn : ∀ s ∈ S, nulFree s) :
    RefinesExtract S (PFC.extract (PFC.build b S)) some where
  extract_in i hi := (extract_build b S hn (i + 1) (Nat.succ_pos i) hi).trans (congrArg some (List.getElem?_eq_getElem hi))
  extract_out := PFC.extract_bad_id b S

theorem PFC.refines (b : Nat) {S : List Str} (hv : validDict S = true) :
    Refines S nulFree (PFC.locate (PFC.build b S)) (PFC.extract (PFC.build b S)) some where
  sorted := validDict_sorted hv
  mem_dom := validDict_nulFree hv
  locate_eq q hq := locate_build b S q (validDict_ne hv) (validDict_nulFree hv) hq (validDict_sorted hv)
  toRefinesExtract := PFC.refinesExtract b (validDict_nulFree hv)

theorem RPFC.refines {S : List Str} {d : RPFC.D} (hst : RPFC.Stores S d) (hv : validDict S = true) :
    Refines S nulFree (RPFC.locate d) (RPFC.extract d) some where
  sorted := validDict_sorted hv
  mem_dom := validDict_nulFree hv
  locate_eq q hq := RPFC.locate_stores hst q (validDict_ne hv) (validDict_nulFree hv) hq (validDict_sorted hv)
  extract_in i hi := (RPFC.extract_stores hst (i + 1) (Nat.succ_pos i) hi).trans (congrArg some (List.getElem?_eq_getElem hi))
  extract_out := RPFC.extract_bad_id hst

theorem RPDAC.refines (d : RPDAC.D) (S : List Str) (r : RPDAC.Represents d S) (hv : validDict S = true) :
    Refines S nulFree (fun q => RPDAC.locate d (RPDAC.bytesNat q)) (RPDAC.extract d) (·.map RPDAC.bytesNat) where
  sorted := validDict_sorted hv
  mem_dom := validDict_nulFree hv
  locate_eq q hq := RPDAC.locate_represents d S r (validDict_nulFree hv) (validDict_sorted hv) q hq
  extract_in i hi := by rw [RPDAC.extract_represents d S r (i + 1), dif_pos ⟨Nat.succ_pos i, hi⟩]; rfl
  extract_out := RPDAC.extract_bad_id d S r

/-- `locate` of the FM-index needs no bound on `maxlength` (`extract` does: `FM.refines`). -/
theorem FM.refinesLocate {S : List Str} {L : List FM.Row} {d : FM.Dict} (hv : validDict S = true)
    (hd : FM.DictOK S L d) : RefinesLocate S (·.all validByte = true) d.locate :=
  ⟨validDict_sorted hv, validDict_validByte hv, FM.locate_spec hv hd⟩

/-- `hml`: `extract` of the FM-index writes into a buffer of `maxlength + 2` bytes. -/
theorem FM.refines {S : List Str} {L : List FM.Row} {d : FM.Dict} (hv : validDict S = true)
    (hd : FM.DictOK S L d) (hml : ∀ s ∈ S, s.length < d.maxlength) :
    Refines S (·.all validByte = true) d.locate d.extract (fun o => some (o.map FM.symsOf)) where
  toRefinesLocate := FM.refinesLocate hv hd
  extract_in := FM.extract_spec hv hd hml
  extract_out := FM.extract_bad_id hd

end CSD
