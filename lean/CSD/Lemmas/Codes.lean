import CSD.Model.Codes

/-! Code trees: prefix-free, complete, monotone if alphabetic; `decode` of an encoded word with more behind it. -/
namespace CSD.Codes

theorem mem_codes_leaf {x s : Nat} {c : List Bool} : (s, c) ∈ codes (.leaf x) ↔ s = x ∧ c = [] := by
  simp [codes]

theorem mem_codes_node {l r : Tree} {s : Nat} {c : List Bool} : (s, c) ∈ codes (.node l r) ↔
    (∃ c', (s, c') ∈ codes l ∧ false :: c' = c) ∨ (∃ c', (s, c') ∈ codes r ∧ true :: c' = c) := by
  simp only [codes, List.mem_append, List.mem_map, Prod.mk.injEq, Prod.exists, and_left_comm, exists_and_left,
    exists_eq_left]

theorem mem_codes_leaves (t : Tree) (s : Nat) : ∀ (c : List Bool), (s, c) ∈ codes t → s ∈ leaves t := by
  induction t with
  | leaf x => intro c h; rw [(mem_codes_leaf.mp h).1]; exact List.mem_singleton_self x
  | node l r ihl ihr =>
    intro c h
    rw [leaves, List.mem_append]
    rcases mem_codes_node.mp h with ⟨c', hm, _⟩ | ⟨c', hm, _⟩
    · exact Or.inl (ihl c' hm)
    · exact Or.inr (ihr c' hm)

theorem decodeSym_node (l r : Tree) (b : Bool) (bits : List Bool) :
    decodeSym (.node l r) (b :: bits) = decodeSym (if b then r else l) bits := by
  cases b <;> rfl

theorem depth_child (l r : Tree) (b : Bool) : depth (if b then r else l) < depth (.node l r) := by
  cases b
  · exact Nat.lt_succ_of_le (Nat.le_max_left _ _)
  · exact Nat.lt_succ_of_le (Nat.le_max_right _ _)

theorem decodeSym_code (t : Tree) (s : Nat) : ∀ (c rest : List Bool), (s, c) ∈ codes t →
    decodeSym t (c ++ rest) = some (s, rest) := by
  induction t with
  | leaf x => intro c rest h; obtain ⟨rfl, rfl⟩ := mem_codes_leaf.mp h; rfl
  | node l r ihl ihr =>
    intro c rest h
    rcases mem_codes_node.mp h with ⟨c', hm, rfl⟩ | ⟨c', hm, rfl⟩
    · exact ihl c' rest hm
    · exact ihr c' rest hm

theorem codes_prefix_free : ∀ (t : Tree) (s₁ s₂ : Nat) (c₁ c₂ ext : List Bool),
    (s₁, c₁) ∈ codes t → (s₂, c₂) ∈ codes t → c₂ = c₁ ++ ext → ext = [] ∧ s₁ = s₂ := by
  intro t s₁ s₂ c₁ c₂ ext h1 h2 he
  have d1 := decodeSym_code t s₁ c₁ ext h1
  have d2 := decodeSym_code t s₂ c₂ [] h2
  rw [List.append_nil, he, d1] at d2
  simp only [Option.some.injEq, Prod.mk.injEq] at d2
  exact ⟨d2.2, d2.1⟩

theorem encode_cons (t : Tree) (s : Nat) (w : List Nat) :
    encode t (s :: w) = (encodeSym t s).bind fun c => (encode t w).map (c ++ ·) := by
  simp only [encode]
  cases encodeSym t s <;> cases encode t w <;> rfl

theorem decode_succ (t : Tree) (n : Nat) (bits : List Bool) :
    decode t (n + 1) bits = (decodeSym t bits).bind fun p => (decode t n p.2).map fun q => (p.1 :: q.1, q.2) := by
  simp only [decode]
  cases decodeSym t bits with
  | none => rfl
  | some p =>
    simp only [Option.bind_some]
    cases decode t n p.2 <;> rfl

theorem decodeSym_encodeSym {t : Tree} {s : Nat} {c : List Bool} (h : encodeSym t s = some c) (rest : List Bool) :
    decodeSym t (c ++ rest) = some (s, rest) := by
  obtain ⟨l₁, l₂, hl, _⟩ := List.lookup_eq_some_iff.mp h
  exact decodeSym_code t s c rest (by rw [hl]; exact List.mem_append_right _ List.mem_cons_self)

theorem encode_cons_eq_some {t : Tree} {s : Nat} {w : List Nat} {enc : List Bool} (h : encode t (s :: w) = some enc) :
    ∃ c r, encodeSym t s = some c ∧ encode t w = some r ∧ enc = c ++ r := by
  rw [encode_cons] at h
  simp only [Option.bind_eq_some_iff, Option.map_eq_some_iff] at h
  obtain ⟨c, hc, r, hr, rfl⟩ := h
  exact ⟨c, r, hc, hr, rfl⟩

theorem decode_encode (t : Tree) : ∀ (w : List Nat) (bits rest : List Bool),
    encode t w = some bits → decode t w.length (bits ++ rest) = some (w, rest)
  | [], bits, rest, h => by cases h; rfl
  | s :: w, bits, rest, h => by
    obtain ⟨c, r, hc, hr, rfl⟩ := encode_cons_eq_some h
    rw [List.length_cons, decode_succ, List.append_assoc, decodeSym_encodeSym hc, Option.bind_some,
      decode_encode t w r rest hr, Option.map_some]

/-- Decoding any `n` symbols from `enc ++ rest`: the output agrees with `w` as far as both go; if `n ≤ |w|` the
stream is left at the encoding of the rest of `w`. -/
theorem decode_of_encode_append (t : Tree) (rest : List Bool) : ∀ (n : Nat) (w : List Nat) (enc : List Bool)
    (o : List Nat) (r : List Bool), encode t w = some enc → decode t n (enc ++ rest) = some (o, r) →
    o.take w.length = w.take n ∧ (n ≤ w.length → ∃ e2, encode t (w.drop n) = some e2 ∧ r = e2 ++ rest) := by
  intro n
  induction n with
  | zero =>
    intro w enc o r henc h
    cases h
    exact ⟨List.take_nil, fun _ => ⟨enc, henc, rfl⟩⟩
  | succ n ih =>
    intro w enc o r henc h
    cases w with
    | nil => exact ⟨rfl, fun h => absurd h (Nat.not_succ_le_zero n)⟩
    | cons s w =>
      obtain ⟨c, e, hc, he, rfl⟩ := encode_cons_eq_some henc
      rw [decode_succ, List.append_assoc, decodeSym_encodeSym hc, Option.bind_some, Option.map_eq_some_iff] at h
      obtain ⟨q, hq, hoq⟩ := h
      cases hoq
      obtain ⟨h1, h2⟩ := ih w e q.1 q.2 he hq
      exact ⟨by rw [List.length_cons, List.take_succ_cons, List.take_succ_cons, h1],
        fun hn => h2 (Nat.le_of_succ_le_succ hn)⟩

theorem kraft_eq : ∀ (t : Tree) (d : Nat), depth t ≤ d → kraft t d = 2 ^ d
  | .leaf _, d, _ => rfl
  | .node l r, 0, h => absurd h (Nat.not_succ_le_zero _)
  | .node l r, d + 1, h => by
    have h := Nat.le_of_succ_le_succ h
    rw [kraft, Nat.add_sub_cancel, kraft_eq l d (Nat.le_trans (Nat.le_max_left _ _) h),
      kraft_eq r d (Nat.le_trans (Nat.le_max_right _ _) h), Nat.pow_succ, Nat.mul_two]

/-- Symbols strictly increasing from left to right (an alphabetic tree, what Hu-Tucker builds). -/
def ordered : Tree → Prop
  | .leaf _ => True
  | .node l r => ordered l ∧ ordered r ∧ ∀ a ∈ leaves l, ∀ b ∈ leaves r, a < b

theorem ordered_codes_lt : ∀ (t : Tree), ordered t → ∀ (s₁ s₂ : Nat) (c₁ c₂ : List Bool),
    (s₁, c₁) ∈ codes t → (s₂, c₂) ∈ codes t → s₁ < s₂ → bitsLt c₁ c₂ = true := by
  intro t
  induction t with
  | leaf x =>
    intro _ s₁ s₂ c₁ c₂ h1 h2 hlt
    rw [(mem_codes_leaf.mp h1).1, (mem_codes_leaf.mp h2).1] at hlt
    exact absurd hlt (Nat.lt_irrefl x)
  | node l r ihl ihr =>
    intro ho s₁ s₂ c₁ c₂ h1 h2 hlt
    rcases mem_codes_node.mp h1 with ⟨c₁', m1, rfl⟩ | ⟨c₁', m1, rfl⟩ <;>
      rcases mem_codes_node.mp h2 with ⟨c₂', m2, rfl⟩ | ⟨c₂', m2, rfl⟩
    · exact ihl ho.1 _ _ c₁' c₂' m1 m2 hlt
    · rfl
    · exact absurd hlt (Nat.lt_asymm (ho.2.2 _ (mem_codes_leaves l _ _ m2) _ (mem_codes_leaves r _ _ m1)))
    · exact ihr ho.2.1 _ _ c₁' c₂' m1 m2 hlt

end CSD.Codes
