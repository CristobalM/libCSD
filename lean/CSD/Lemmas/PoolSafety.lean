import CSD.Lemmas.PoolAccounting

/-! Reachable states and what the invariants give for them; the schedule on which the pool as originally
written hangs. -/
namespace CSD.Pool

theorem reachable_n {n : Nat} {tasks : List Nat} {s : State} (h : Reachable n tasks s) : s.n = n := by
  induction h with
  | init => rfl
  | step _ hs ih => exact (step_n hs).trans ih

theorem reachable_of_run {n : Nat} {tasks : List Nat} : ∀ (sched : List Tid) (s0 s : State), Reachable n tasks s0 →
    runSched step s0 sched = some s → Reachable n tasks s
  | [], s0, s, hr, h => by
    cases h
    exact hr
  | t :: ts, s0, s, hr, h => by
    simp only [runSched] at h
    split at h
    · exact reachable_of_run ts _ s (.step hr ‹_›) h
    · cases h

theorem conservation {n : Nat} {tasks : List Nat} {s : State} (h : Reachable n tasks s) (x : Nat) :
    s.queue.count x + sumW (WPc.hand x) s.wpc s.n + s.ran.count x + s.prod.remaining.count x = tasks.count x := by
  have h2 := inv2_reachable h
  rw [← h2.progress, List.count_append, h2.conserved x]

/-- **At most once**: in every reachable state (any schedule, any number of workers, spurious wake-ups
included) no task has run more often than it was submitted. -/
theorem at_most_once {n : Nat} {tasks : List Nat} {s : State} (h : Reachable n tasks s) (x : Nat) :
    s.ran.count x ≤ tasks.count x := by
  rw [← conservation h x, Nat.add_right_comm _ (s.ran.count x), Nat.add_comm]
  exact Nat.le_add_right ..

/-- **Exactly once at termination**: when `wait_workers` has returned, every task has run exactly as often
as it was submitted (once, for distinct tasks). -/
theorem exactly_once_at_termination {n : Nat} {tasks : List Nat} {s : State} (hn : 0 < n)
    (h : Reachable n tasks s) (hd : s.prod = .done) (x : Nat) :
    s.ran.count x = tasks.count x := by
  have h2 := inv2_reachable h
  have hall := (inv_reachable h).doneAll hd
  have h0 : 0 < s.n := reachable_n h ▸ hn
  -- every worker is `done`: the other three places are empty
  rw [← conservation h x, (h2.exited 0 h0 (.inr (hall 0 h0))).2,
    sumW_congr (w := fun _ => .done) s.n fun j hj => congrArg _ (hall j hj), sumW_const, hd]
  exact (Nat.zero_add _).symm

/-- **No deadlock**: while `wait_workers` has not returned, some thread of the program can take a step. -/
theorem no_deadlock {n : Nat} {tasks : List Nat} {s : State} (h : Reachable n tasks s)
    (hnd : s.prod ≠ .done) : ¬ Stuck step s :=
  (inv_reachable h).not_stuck hnd

theorem shared_changes_under_mutex {s s' : State} {t : Tid} (hI : Inv s) (h : Step s t s') :
    s'.queue ≠ s.queue ∨ s'.stopped ≠ s.stopped → s.mutex = some t := by
  induction h with
  | check_pop hi hpc _ => exact fun _ => (hI.mutexW _).mpr ⟨hi, hpc ▸ rfl⟩
  | addPush hp => exact fun _ => hI.mutexP.mpr (hp ▸ rfl)
  | stopSet_lt hp _ => exact fun _ => hI.mutexP.mpr (hp ▸ rfl)
  -- `rfl` through `notifyAll` is slow: the unifier first tries to identify the two states
  | unlocked | exitNotify | addNotify | stopNotify =>
    exact (·.elim (absurd (notifyAll_queue _)) (absurd (notifyAll_stopped _)))
  | _ => exact (·.elim (absurd rfl) (absurd rfl))

/-- Lock discipline (queue): the queue is changed only by the thread that owns `shared_mutex`. -/
theorem queue_changes_under_mutex {s s' : State} {t : Tid} (hI : Inv s) (h : step s t = some s')
    (hch : s'.queue ≠ s.queue) : s.mutex = some t :=
  shared_changes_under_mutex hI (.of_step h) (.inl hch)

/-- The schedule that loses the shutdown notification. -/
def lostWakeupSchedule : List Tid :=
  [.worker 0, .worker 0, .worker 0,          -- loop condition, lock, predicate = false
   .prod, .prod, .prod, .prod,               -- stop: (no lock) set flag 0, end of loop, notify_all
   .worker 0]                                -- release the mutex and block

/-- **The unrepaired pool can hang**: one worker, no task; after this schedule the worker waits with its stop
flag set, the producer is in `wait_workers`, and no thread can move. -/
theorem lost_wakeup_unlocked :
    ∃ s, runSched stepUnlocked (init 1 []) lostWakeupSchedule = some s ∧
      Stuck stepUnlocked s ∧ s.prod = .join ∧ s.wpc 0 = .waiting ∧ s.stopped 0 = true := by
  refine ⟨_, rfl, ⟨?_, ?_⟩, rfl, rfl, rfl⟩
  · rfl
  · intro i
    cases i with
    | zero => rfl
    | succ j =>
      apply stepUnlocked_worker_ge
      exact Nat.le_add_left 1 j

end CSD.Pool
