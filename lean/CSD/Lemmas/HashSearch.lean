import CSD.Lemmas.HashTable
import CSD.Lemmas.ListIdx

/-! `locate` / `extract` of the hash dictionary over a table satisfying `Good`: an ID is the rank of an occupied cell,
members are found at their cell, absent strings are not found, the two are inverse on `1 … n`. `build` makes such a
table; the table scan lists `n` distinct members. -/
namespace CSD.Hash

theorem rankOcc_le (t : Table) (s : Nat) : rankOcc t s ≤ occ t :=
  ((List.take_sublist _ t).filter _).length_le

theorem occList_length (t : Table) : (t.filterMap (fun x => x)).length = occ t := by
  rw [List.length_filterMap_eq_countP, List.countP_eq_length_filter]; rfl

theorem rankOcc_eq_cntB (t : Table) (s : Nat) : rankOcc t s = ListIdx.cntB (fun x => x) t (s + 1) :=
  (occList_length (t.take (s + 1))).symm

theorem occList_rank (t : Table) (s k : Nat) (h : t[s]? = some (some k)) :
    1 ≤ rankOcc t s ∧ (t.filterMap (fun x => x))[rankOcc t s - 1]? = some k := by
  obtain ⟨hs, hk⟩ := List.getElem?_eq_some_iff.mp h
  rw [rankOcc_eq_cntB, ListIdx.cntB_succ_some _ t s hs k hk]
  exact ⟨Nat.le_add_left 1 _, ListIdx.filterMap_getElem? _ t s hs k hk⟩

theorem exists_cell_of_rank (t : Table) (id : Nat) (h1 : 1 ≤ id) (h2 : id ≤ occ t) :
    ∃ s k : Nat, t[s]? = some (some k) ∧ rankOcc t s = id := by
  have hlt : id - 1 < (t.filterMap (fun x => x)).length :=
    occList_length t ▸ Nat.lt_of_lt_of_le (Nat.sub_lt h1 Nat.one_pos) h2
  obtain ⟨s, hs, hk, hc⟩ := ListIdx.exists_of_filterMap_getElem? _ t _ _ (List.getElem?_eq_getElem hlt)
  refine ⟨s, _, List.getElem?_eq_some_iff.mpr ⟨hs, hk⟩, ?_⟩
  rw [rankOcc_eq_cntB, ListIdx.cntB_succ_some _ t s hs _ hk, hc, Nat.sub_add_cancel h1]

def lf (d : HDict) (q : Str) (i : Nat) : Option Nat :=
  match d.table.getD (pr d.tsize q i) none with
  | none => some 0
  | some k => if d.S.getD k [] = q then some (rankOcc d.table (pr d.tsize q i)) else none

theorem locate_eq (d : HDict) (q : Str) :
    locate d q = ((List.range d.tsize).findSome? (lf d q)).getD 0 := rfl

/-- `Good` for all of `S`, and what `Good` does not contain: probes that cover the table, distinct strings. -/
structure GoodDict (d : HDict) : Prop where
  probe : ProbeOK d.tsize
  nodup : d.S.Nodup
  good : Good d.tsize d.S d.table d.S.length

theorem lf_cell {d : HDict} {q : Str} {i k : Nat} (h : d.table[pr d.tsize q i]? = some (some k)) :
    lf d q i = if d.S.getD k [] = q then some (rankOcc d.table (pr d.tsize q i)) else none := by
  unfold lf
  rw [List.getD_eq_getElem?_getD, h]
  rfl

theorem locate_member {d : HDict} (g : GoodDict d) (k : Nat) (w : Str) (hk : d.S[k]? = some w) :
    ∃ s, d.table[s]? = some (some k) ∧ locate d w = rankOcc d.table s := by
  obtain ⟨hkn, rfl⟩ := List.getElem?_eq_some_iff.mp hk
  obtain ⟨s, hs⟩ := g.good.all k hkn
  obtain ⟨_, w', hw', i, hi, rfl, hpath⟩ := g.good.stored s k hs
  obtain rfl : d.S[k] = w' := Option.some.inj (hk ▸ hw')
  refine ⟨_, hs, ?_⟩
  rw [locate_eq, findSome?_range_first (lf d d.S[k]) d.tsize i _ hi ?_ ?_]
  · rfl
  · -- an earlier probe holds another string: the same one would sit in two cells
    intro j hj
    obtain ⟨k', hk'⟩ := hpath j hj
    rw [lf_cell hk', if_neg]
    intro heq
    have hk'n := (g.good.stored _ k' hk').1
    rw [← List.getElem_eq_getD (h := hk'n)] at heq
    obtain rfl : k' = k := (List.getElem_inj g.nodup).mp heq
    exact Nat.ne_of_lt hj (g.probe.2 _ j i (Nat.lt_trans hj hi) hi (g.good.uniq _ _ _ hk' hs))
  · rw [lf_cell hs, if_pos (List.getElem_eq_getD []).symm]
    rfl

theorem locate_absent {d : HDict} (g : GoodDict d) (q : Str) (hq : q ∉ d.S) : locate d q = 0 := by
  rw [locate_eq]
  cases h : (List.range d.tsize).findSome? (lf d q) with
  | none => rfl
  | some r =>
    -- the probe that answered stands on a free cell: an occupied one holds a member, which is not `q`
    obtain ⟨i, _, hi⟩ := List.exists_of_findSome?_eq_some h
    cases hc : d.table.getD (pr d.tsize q i) none with
    | none =>
      unfold lf at hi
      rw [hc] at hi
      exact (Option.some.inj hi).symm
    | some k =>
      have hcell := getD_eq_some hc
      have hkn := (g.good.stored _ k hcell).1
      rw [lf_cell hcell, if_neg] at hi
      · cases hi
      · rw [← List.getElem_eq_getD (h := hkn)]
        exact fun heq => hq (heq ▸ List.getElem_mem hkn)

theorem extract_rank {d : HDict} (g : GoodDict d) {s k : Nat} (h : d.table[s]? = some (some k)) :
    1 ≤ rankOcc d.table s ∧ rankOcc d.table s ≤ d.S.length ∧ extract d (rankOcc d.table s) = d.S[k]? := by
  obtain ⟨h1, hocc⟩ := occList_rank d.table s k h
  have h2 : rankOcc d.table s ≤ d.S.length := g.good.cnt ▸ rankOcc_le d.table s
  refine ⟨h1, h2, ?_⟩
  unfold extract
  rw [if_neg (not_or.mpr ⟨Nat.ne_of_gt h1, Nat.not_lt.mpr h2⟩)]
  simp only [hocc]

theorem extract_locate {d : HDict} (g : GoodDict d) (k : Nat) (w : Str) (hk : d.S[k]? = some w) :
    extract d (locate d w) = some w := by
  obtain ⟨s, hs, hl⟩ := locate_member g k w hk
  rw [hl, (extract_rank g hs).2.2, hk]

theorem member_round_trip {d : HDict} (g : GoodDict d) (s : Str) (hs : s ∈ d.S) :
    1 ≤ locate d s ∧ locate d s ≤ d.S.length ∧ extract d (locate d s) = some s := by
  obtain ⟨k, hk⟩ := List.mem_iff_getElem?.mp hs
  obtain ⟨c, hc, hl⟩ := locate_member g k s hk
  exact ⟨hl ▸ (extract_rank g hc).1, hl ▸ (extract_rank g hc).2.1, extract_locate g k s hk⟩

theorem locate_extract {d : HDict} (g : GoodDict d) (id : Nat) (h1 : 1 ≤ id) (h2 : id ≤ d.S.length) :
    ∃ w, extract d id = some w ∧ w ∈ d.S ∧ locate d w = id := by
  obtain ⟨s, k, hs, rfl⟩ := exists_cell_of_rank d.table id h1 (by rw [g.good.cnt]; exact h2)
  have hkn := (g.good.stored s k hs).1
  have hk : d.S[k]? = some d.S[k] := List.getElem?_eq_getElem hkn
  obtain ⟨s', hs', hl⟩ := locate_member g k _ hk
  obtain rfl : s' = s := g.good.uniq _ _ _ hs' hs
  exact ⟨d.S[k], by rw [(extract_rank g hs).2.2, hk], List.getElem_mem hkn, hl⟩

theorem extract_invalid (d : HDict) (id : Nat) (h : id = 0 ∨ id > d.S.length) : extract d id = none := by
  unfold extract; rw [if_pos h]

theorem locate_injective {d : HDict} (g : GoodDict d) (w w' : Str) (hw : w ∈ d.S) (hw' : w' ∈ d.S)
    (h : locate d w = locate d w') : w = w' := by
  obtain ⟨k, hk⟩ := List.mem_iff_getElem?.mp hw
  obtain ⟨k', hk'⟩ := List.mem_iff_getElem?.mp hw'
  have e1 := extract_locate g k w hk
  have e2 := extract_locate g k' w' hk'
  rw [h, e2] at e1
  exact (Option.some.inj e1).symm

theorem build_S (t : Nat) (S : List Str) : (build t S).S = S := rfl

/-- `hacc`: the table size passed `nearest_prime`'s own test, always the case when the C++ loop returns. -/
theorem goodDict_build (tsize0 : Nat) (S : List Str) (hnd : S.Nodup) (hcap : S.length ≤ tsize0)
    (hacc : accepted (build tsize0 S).tsize = true) : GoodDict (build tsize0 S) where
  probe := probeOK_of_accepted hacc
  nodup := hnd
  good := good_insertAll (probeOK_of_accepted hacc) S (Nat.le_trans hcap (nearestPrime_ge _ _))

/-- Within the model's fuel the size is always accepted unless the search ran to its end. -/
theorem build_tsize_spec (tsize0 : Nat) (S : List Str) :
    accepted (build tsize0 S).tsize = true ∨ (build tsize0 S).tsize = tsize0 + (2 * tsize0 + 4) :=
  nearestPrime_spec _ _

/-- `loc w ≤ n` only carries the induction (the new element has ID `n + 1`); the callers drop it. -/
theorem each_once_of_inverse {α : Type} (ext : Nat → Option α) (loc : α → Nat) (mem : α → Prop) (n : Nat) :
    (∀ id, 1 ≤ id → id ≤ n → ∃ w, ext id = some w ∧ mem w ∧ loc w = id) →
    ∃ L : List α, (List.range n).map (fun i => ext (i + 1)) = L.map some ∧ L.length = n ∧ L.Nodup ∧
      ∀ w ∈ L, mem w ∧ loc w ≤ n := by
  induction n with
  | zero => exact fun _ => ⟨[], rfl, rfl, List.nodup_nil, fun _ h => absurd h List.not_mem_nil⟩
  | succ n ih =>
    intro h
    obtain ⟨L, hmap, hlen, hnd, hL⟩ := ih fun id h1 h2 => h id h1 (Nat.le_succ_of_le h2)
    obtain ⟨w, hw, hwm, hwl⟩ := h (n + 1) (Nat.le_add_left 1 n) (Nat.le_refl _)
    refine ⟨L ++ [w], ?_, by rw [List.length_append, hlen]; rfl, ?_, ?_⟩
    · rw [List.range_succ, List.map_append, hmap, List.map_append, List.map_singleton, List.map_singleton, hw]
    · -- `w` has the new ID `n + 1`, everything listed so far an ID up to `n`
      refine List.nodup_append.mpr ⟨hnd, List.pairwise_singleton _ w, fun a ha b hb => ?_⟩
      rw [List.mem_singleton.mp hb]
      intro e
      have := (hL a ha).2
      rw [e, hwl] at this
      exact Nat.not_succ_le_self n this
    · intro v hv
      rcases List.mem_append.mp hv with hv | hv
      · exact ⟨(hL v hv).1, Nat.le_succ_of_le (hL v hv).2⟩
      · rw [List.mem_singleton.mp hv]; exact ⟨hwm, Nat.le_of_eq hwl⟩

/-- `extractTable` of the single-table hash kinds (HASHRPDAC, HASHRPF, …): `tabledec[i-1] = extract(i)` for
`i = 1 … elements`. -/
def tableHash (d : HDict) : List (Option Str) := (List.range d.S.length).map fun i => extract d (i + 1)

theorem tableHash_each_once {d : HDict} (g : GoodDict d) :
    ∃ L : List Str, tableHash d = L.map some ∧ L.length = d.S.length ∧ L.Nodup ∧ ∀ w ∈ L, w ∈ d.S := by
  obtain ⟨L, hmap, hlen, hnd, hL⟩ := each_once_of_inverse (extract d) (locate d) (· ∈ d.S) d.S.length
    (locate_extract g)
  exact ⟨L, hmap, hlen, hnd, fun w hw => (hL w hw).1⟩

end CSD.Hash
