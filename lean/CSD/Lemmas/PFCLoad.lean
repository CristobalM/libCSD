import CSD.Lemmas.LogSeqIO
import CSD.Lemmas.PFCBasic

/-! `StringDictionaryPFC::load ∘ save = id` on bytes. -/
namespace CSD.PFC
open CSD
open CSD.LogSeq (readLE readLE_leBytes Filled ofList_spec)

/-- The object fits the image format: the widths `save` writes its fields with. `tpos`: the index is saved with
`bits text.length` bits, and `ofList_spec` needs a positive width. -/
structure WFImg (d : T) : Prop where
  el : d.elements < 2 ^ 64
  ml : d.maxlength < 2 ^ 32
  bk : d.buckets < 2 ^ 32
  bs : d.bucketsize < 2 ^ 32
  tl : d.text.length < 2 ^ 64
  tpos : 1 ≤ d.text.length
  bll : d.bl.length < 2 ^ 64
  blv : ∀ v ∈ d.bl, v ≤ d.text.length

theorem bits_range (n : Nat) (h1 : 1 ≤ n) (h2 : n < 2 ^ 64) : 1 ≤ bits n ∧ bits n ≤ 64 ∧ n ≤ LogSeq.maxVal (bits n) := by
  have hn : n ≠ 0 := Nat.ne_of_gt h1
  rw [bits, LogSeq.maxVal, if_neg hn]
  exact ⟨Nat.le_add_left 1 _, (Nat.log2_lt hn).mpr h2, Nat.le_sub_one_of_lt Nat.lt_log2_self⟩

theorem fieldsOf_filled (vs : List Nat) (w : Nat) (s : LogSeq.T) (f : Filled vs w s vs.length)
    (hv : ∀ v ∈ vs, v < 2 ^ 64) : ∀ k, k ≤ vs.length → fieldsOf s k = some (vs.take k)
  | 0, _ => rfl
  | k + 1, hk => by
    rw [fieldsOf, fieldsOf_filled vs w s f hv k (Nat.le_of_lt hk), f.got k hk hk]
    simp only
    rw [BitVec.toNat_ofNat, Nat.mod_eq_of_lt (hv _ (List.getElem_mem hk)), List.take_succ_eq_append_getElem hk]

/-- **The image is self-delimiting and reloads to the same object**: `load` consumes exactly what `save` wrote and
returns the object saved. -/
theorem load_save (d : T) (wf : WFImg d) :
    ∃ img, save d = some img ∧ ∀ rest, load (img ++ rest) = some (d, rest) := by
  obtain ⟨hw1, hw, hmax⟩ := bits_range d.text.length wf.tpos wf.tl
  obtain ⟨ls, hls, f⟩ := ofList_spec d.bl (bits d.text.length) hw1 hw fun v hv => Nat.le_trans (wf.blv v hv) hmax
  refine ⟨_, by rw [save, hls], fun rest => ?_⟩
  have hfo := fieldsOf_filled d.bl _ ls f (fun v hv => Nat.lt_of_le_of_lt (wf.blv v hv) wf.tl) d.bl.length (Nat.le_refl _)
  rw [← f.ne, List.take_of_length_le (Nat.le_of_eq f.ne.symm)] at hfo
  have hll : ∀ rest, LogSeq.load (ls.save ++ rest) = some (ls, rest) :=
    LogSeq.load_save ls (f.nb ▸ Nat.lt_of_le_of_lt hw (by decide)) (f.ne ▸ wf.bll) (f.nb ▸ f.ne ▸ f.len)
  simp only [load, u32le, u64le, List.append_assoc, readLE_leBytes 4 (show 211 < _ by decide), readLE_leBytes 8 wf.el,
    readLE_leBytes 4 wf.ml, readLE_leBytes 4 wf.bk, readLE_leBytes 4 wf.bs, readLE_leBytes 8 wf.tl,
    List.length_append, Nat.not_lt.mpr (Nat.le_add_right _ _), List.drop_left, List.take_left,
    hll, hfo,
    ne_eq, not_true_eq_false, ↓reduceIte]

/-- Saving what was loaded reproduces the image byte for byte. -/
theorem resave (d : T) (wf : WFImg d) (img : List UInt8) (h : save d = some img) (rest : List UInt8) :
    ∃ d', load (img ++ rest) = some (d', rest) ∧ save d' = some img := by
  obtain ⟨img', himg, hl⟩ := load_save d wf
  rw [h] at himg
  cases himg
  exact ⟨d, hl rest, h⟩

/-- A dictionary built from a non-empty input fits the image format once its sizes fit the format's 32/64-bit fields
(what the C++ types assume). -/
theorem build_wf (b : Nat) (S : List Str) (hne : S ≠ []) (hb : b < 2 ^ 32) (hn : S.length < 2 ^ 32)
    (hml : (build b S).maxlength < 2 ^ 32) (htl : (build b S).text.length < 2 ^ 64) : WFImg (build b S) := by
  have hb2 : clamp b ≠ 0 := Nat.ne_of_gt (clamp_pos b)
  -- a bucket beyond the last string would start at a position of `S`
  have hbk : (build b S).buckets ≤ S.length := Nat.not_lt.mp fun h =>
    Nat.not_lt.mpr (Nat.le_mul_of_pos_right _ (clamp_pos b))
      ((lt_chunks_length _ hb2 _ S).mp (by rw [← List.length_map (f := encBucket)]; exact h))
  refine ⟨Nat.lt_trans hn (by decide), hml, Nat.lt_of_le_of_lt hbk hn, ?_, htl, ?_, ?_, ?_⟩
  · show clamp b < 2 ^ 32
    unfold clamp
    split
    · decide
    · exact hb
  · -- the text is not empty: it starts with the first string and its NUL
    have e := encChunks_cons (clamp b) (clamp_pos b) S 0 (List.length_pos_iff.mpr hne)
    rw [List.drop_zero] at e
    rw [build_text, e, List.length_append, List.length_cons]
    exact Nat.le_trans (Nat.le_add_left 1 _) (Nat.le_add_left _ _)
  · rw [build_bl, List.length_append, List.length_cons, offsetsFrom_length, List.length_singleton]
    exact Nat.lt_of_le_of_lt (Nat.add_le_add_right (Nat.succ_le_succ hbk) 1)
      (Nat.lt_of_lt_of_le (Nat.add_lt_add_right (Nat.add_lt_add_right hn 1) 1) (by decide))
  · intro v hv
    rw [build_bl, build_text] at *
    simp only [List.mem_cons, List.mem_append] at hv
    rcases hv with (h | h) | h
    · exact h ▸ Nat.zero_le _
    · exact Nat.le_trans (offsetsFrom_le _ 0 v h) (Nat.le_of_eq (Nat.zero_add _))
    · exact Nat.le_of_eq (h.resolve_right List.not_mem_nil)

end CSD.PFC
