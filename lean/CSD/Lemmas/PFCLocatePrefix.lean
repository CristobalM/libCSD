import CSD.Lemmas.PFCBoundary
import CSD.Lemmas.PFCPrefixB

/-! `StringDictionaryPFC::locatePrefix` on a built dictionary: between the boundary buckets `searchPrefix` finds the
first match of a bucket, `searchDistinctPrefix` the last match of `S`; assembled in `S`'s coordinates. -/
namespace CSD.PFC
open CSD CSD.RPDAC

/-- The run of matches counted from the match `d` of bucket `k` ends at the last match of `S`, provided nothing
behind bucket `k` matches. -/
theorem right_count {S : List Str} (hS : ∀ s ∈ S, nulFree s) (hsort : SortedLt S) (q : Str) {B k : Nat} (h1 : 1 ≤ k)
    {Z L : List Str} {d : Str} (hB : bucketOf B S k = Z ++ d :: L) (hd : isPrefix q d = true)
    (hafter : ∀ i (h : i < S.length), k * B ≤ i → isPrefix q S[i] = false)
    (fuel : Nat) (hf : L.length + 1 ≤ fuel) (rest : List UInt8) :
    ∃ t c, searchDistinctLoop q.length fuel 1 L.length (encTail d L ++ rest) d = some (1 + t) ∧
      S[(k - 1) * B + Z.length + t]? = some c ∧ isPrefix q c = true ∧
      ∀ s, S[(k - 1) * B + Z.length + t + 1]? = some s → isPrefix q s = false := by
  have hsub : (Z ++ d :: L).Sublist S := hB ▸ (List.take_sublist _ _).trans (List.drop_sublist _ _)
  have hsorted : SortedLt (d :: L) := (List.pairwise_append.mp (hsort.sublist hsub)).2.1
  have hnf : ∀ s ∈ d :: L, nulFree s := fun s hs => hS s (hsub.subset (List.mem_append_right _ hs))
  have hlen : Z.length + (L.length + 1) ≤ B := by
    rw [← List.length_cons, ← List.length_append, ← hB, bucketOf_length]
    exact Nat.min_le_left _ _
  have hat : ∀ j, j ≤ L.length → S[(k - 1) * B + Z.length + j]? = (d :: L)[j]? := fun j hj => by
    rw [Nat.add_assoc, ← bucketOf_getElem? B S k _ (by omega), hB, List.getElem?_append_right (Nat.le_add_right _ _),
      Nat.add_sub_cancel_left]
  obtain ⟨c, hc, hmc, hnext⟩ := ListIdx.takeWhile_end (isPrefix q) d L hd
  have ht : (L.takeWhile (isPrefix q)).length ≤ L.length := Nat.le_of_lt_succ (List.getElem?_eq_some_iff.mp hc).1
  refine ⟨_, c, searchDistinctLoop_spec q L d 1 fuel L.length rest (chain_of_sorted _ _ hsorted)
    (hnf d List.mem_cons_self) (fun s hs => hnf s (List.mem_cons_of_mem _ hs)) hd (Nat.add_comm _ _) hf,
    by rw [hat _ ht, hc], hmc, fun s hs => ?_⟩
  rcases Nat.lt_or_ge (L.takeWhile (isPrefix q)).length L.length with hlt | hge
  · rw [Nat.add_assoc, hat _ hlt] at hs
    exact hnext s hs
  · obtain ⟨h, rfl⟩ := List.getElem?_eq_some_iff.mp hs
    exact hafter _ h (bucketOf_end h1 h (by rw [hB, List.length_append, List.length_cons]; omega))

/-! No member matches before bucket `k + 1` after a scan of bucket `k` that found nothing (`before_next`), before a
bucket whose header is below the pattern (`before_bucket`), behind bucket `k` when the later headers are above it
(`after_bucket`). -/

theorem before_next {S : List Str} {q : Str} {B k : Nat} (h1 : 1 ≤ k)
    (hbefore : ∀ i (h : i < S.length), i < (k - 1) * B → isPrefix q S[i] = false)
    (hnone : ∀ s ∈ bucketOf B S k, isPrefix q s = false) :
    ∀ i (h : i < S.length), i < k * B → isPrefix q S[i] = false := fun i h hi =>
  bucketOf_prefix (List.append_nil _).symm hbefore hnone i _
    (Nat.lt_of_not_le fun hge => Nat.not_le.mpr hi (bucketOf_end h1 h hge)) (List.getElem?_eq_getElem h)

section
variable {b0 : Nat} {S : List Str} {q : Str} (hS : ∀ s ∈ S, nulFree s) (hsort : SortedLt S) (hq : nulFree q)
include hS hq

/-- `fH` is `pcmp` by unfolding. -/
theorem header_match {k : Nat} (h1 : 1 ≤ k) (h2 : k ≤ (build b0 S).buckets) (hz : fH b0 S q k = 0) :
    isPrefix q (hd b0 S k) = true :=
  (pcmp_zero_iff (hS _ (hd_mem b0 S h1 h2)) hq).mp hz

include hsort

theorem before_bucket {k : Nat} (h2 : k ≤ (build b0 S).buckets) (hneg : 1 < k → fH b0 S q k < 0) :
    ∀ i (h : i < S.length), i < (k - 1) * clamp b0 → isPrefix q S[i] = false := fun i h hlt =>
  have hk : 1 < k := Nat.lt_of_not_le fun hk => by rw [Nat.sub_eq_zero_of_le hk, Nat.zero_mul] at hlt; cases hlt
  have hneg := fH_eq_along b0 S q k ▸ hneg hk
  Bool.eq_false_iff.mpr <| mt (along_pcmp_eq_zero hS hq h).mpr <| Int.ne_of_lt <|
    (pcmp_along_mono hS hsort q).neg_le (Nat.le_add_left 1 i) (Nat.succ_le_succ (Nat.le_of_lt hlt))
      (bucket_idx_lt b0 S k (Nat.le_of_lt hk) h2) hneg

theorem after_bucket {k : Nat} (hnext : ∀ k', k < k' → k' ≤ (build b0 S).buckets → fH b0 S q k' > 0) :
    ∀ i (h : i < S.length), k * clamp b0 ≤ i → isPrefix q S[i] = false := fun i h hle =>
  -- bucket `k + 1` exists, since `i` lies in it or behind it
  have h2 : k + 1 ≤ (build b0 S).buckets := (idx_lt_iff b0 S (Nat.le_add_left 1 k)).mp (Nat.lt_of_le_of_lt hle h)
  have hpos := fH_eq_along b0 S q (k + 1) ▸ hnext (k + 1) (Nat.lt_succ_self k) h2
  Bool.eq_false_iff.mpr <| mt (along_pcmp_eq_zero hS hq h).mpr <| Int.ne_of_gt <|
    (pcmp_along_mono hS hsort q).pos_le (b := i + 1) (Nat.le_add_left 1 _) (Nat.succ_le_succ hle) h hpos
end

section
variable (b0 : Nat) (S : List Str) (q : Str)

/-- The single-bucket path of `locatePrefix` on bucket `k`, when no string outside the bucket matches, stage by
stage. -/
theorem single_bucket (hS : ∀ s ∈ S, nulFree s) (hsort : SortedLt S) (hq : nulFree q) (k : Nat) (h1 : 1 ≤ k)
    (h2 : k ≤ (build b0 S).buckets)
    (hbefore : ∀ i (h : i < S.length), i < (k - 1) * clamp b0 → isPrefix q S[i] = false)
    (hafter : ∀ i (h : i < S.length), k * clamp b0 ≤ i → isPrefix q S[i] = false) :
    ∃ ptr, hdrOf (build b0 S) k = some (hd b0 S k, ptr) ∧
    ∃ leftID ptr' dec, searchPrefixLoop q (scanneableOf (build b0 S) k + 1) 1 (scanneableOf (build b0 S) k) ptr
        (hd b0 S k) 0 = some (leftID, ptr', dec) ∧
      (leftID = 0 → ∀ i (h : i < S.length), isPrefix q S[i] = false) ∧
      (leftID ≠ 0 → ∃ cnt, searchDistinctLoop q.length (scanneableOf (build b0 S) k + 1) 1
          (scanneableOf (build b0 S) k - leftID) ptr' dec = some cnt ∧
        PrefixChar S q (leftID + (k - 1) * clamp b0) (leftID + cnt - 1 + (k - 1) * clamp b0)) := by
  obtain ⟨L, rest, hB, hh, hsorted, hnf, hnfL, hsc⟩ := bucket_facts b0 S hS k h1 h2
  refine ⟨_, hh, ?_⟩
  rw [hsc]
  obtain ⟨leftID, ptr', dec, hres, hcase⟩ := searchPrefixLoop_split q L (hd b0 S k) 1 (1 + L.length + 1) 0 rest
    (chain_of_sorted _ _ (hsorted hsort)) hnf hnfL (Nat.succ_le_succ (Nat.le_add_left _ _)) (Nat.zero_le _)
  refine ⟨leftID, ptr', dec, hres, ?_⟩
  rcases hcase with ⟨rfl, hnone⟩ | ⟨A, L', hsplit, rfl, rfl, hm, hA⟩
  · exact ⟨fun _ i h => (Nat.lt_or_ge i (k * clamp b0)).elim (before_next h1 hbefore (hB ▸ hnone) i h) (hafter i h),
      fun h => absurd rfl h⟩
  · refine ⟨fun h => by omega, fun _ => ?_⟩
    rw [hsplit] at hB
    have hlen : 1 + L.length = 1 + A.length + L'.length := by
      have := congrArg List.length hsplit
      simp only [List.length_cons, List.length_append] at this
      omega
    rw [hlen, Nat.add_sub_cancel_left]
    obtain ⟨t, c, hcnt, hc, hmc, hnext⟩ := right_count hS hsort q h1 hB hm hafter (1 + A.length + L'.length + 1)
      (Nat.succ_le_succ (Nat.le_add_left _ _)) rest
    refine ⟨_, hcnt, ?_⟩
    rw [Nat.add_assoc 1 A.length (1 + t), Nat.add_sub_cancel_left]
    exact PrefixChar.of_ends hsort q (bucketOf_at hB) hc hm hmc (bucketOf_prefix hB hbefore hA) hnext (by omega)
      (by omega)

/-- The multi-bucket path of `locatePrefix` (left bucket `lb`, right bucket `rb`), stage by stage. -/
theorem multi_bucket (hS : ∀ s ∈ S, nulFree s) (hsort : SortedLt S) (hq : nulFree q) (lb rb : Nat)
    (h1 : 1 ≤ lb) (hlr : lb < rb) (h2 : rb ≤ (build b0 S).buckets)
    (hhdr : ∀ k, lb < k → k ≤ rb → fH b0 S q k = 0)
    (hbefore : ∀ i (h : i < S.length), i < (lb - 1) * clamp b0 → isPrefix q S[i] = false)
    (hafter : ∀ i (h : i < S.length), rb * clamp b0 ≤ i → isPrefix q S[i] = false) :
    ∃ ptr, hdrOf (build b0 S) lb = some (hd b0 S lb, ptr) ∧
    ∃ leftID ptr' dec, searchPrefixLoop q (scanneableOf (build b0 S) lb + 1) 1 (scanneableOf (build b0 S) lb) ptr
        (hd b0 S lb) 0 = some (leftID, ptr', dec) ∧
    ∃ ptr2, hdrOf (build b0 S) rb = some (hd b0 S rb, ptr2) ∧
    ∃ cnt, searchDistinctLoop q.length (scanneableOf (build b0 S) rb + 1) 1 (scanneableOf (build b0 S) rb - 1) ptr2
        (hd b0 S rb) = some cnt ∧
      PrefixChar S q (if leftID = 0 then lb * clamp b0 + 1 else leftID + (lb - 1) * clamp b0)
        (cnt + (rb - 1) * clamp b0) := by
  have hrb1 : 1 ≤ rb := Nat.le_trans h1 (Nat.le_of_lt hlr)
  have hlb2 : lb + 1 ≤ (build b0 S).buckets := Nat.le_trans hlr h2
  obtain ⟨L, rest, hB, hh, hsorted, hnf, hnfL, hsc⟩ := bucket_facts b0 S hS lb h1 (Nat.le_of_succ_le hlb2)
  obtain ⟨L2, rest2, hB2, hh2, -, -, -, hsc2⟩ := bucket_facts b0 S hS rb hrb1 h2
  refine ⟨_, hh, ?_⟩
  rw [hsc]
  obtain ⟨leftID, ptr', dec, hres, hcase⟩ := searchPrefixLoop_split q L (hd b0 S lb) 1 (1 + L.length + 1) 0 rest
    (chain_of_sorted _ _ (hsorted hsort)) hnf hnfL (Nat.succ_le_succ (Nat.le_add_left _ _)) (Nat.zero_le _)
  refine ⟨leftID, ptr', dec, hres, _, hh2, ?_⟩
  obtain ⟨t, c, hcnt, hc, hmc, hnext⟩ := right_count hS hsort q hrb1 (Z := []) hB2
    (header_match hS hq hrb1 h2 (hhdr rb hlr (Nat.le_refl _))) hafter (1 + L2.length + 1)
    (Nat.succ_le_succ (Nat.le_add_left _ _)) rest2
  rw [List.length_nil, Nat.add_zero] at hc hnext
  rw [hsc2, Nat.add_sub_cancel_left]
  refine ⟨_, hcnt, ?_⟩
  rcases hcase with ⟨rfl, hnone⟩ | ⟨A, L', hsplit, rfl, rfl, hm, hA⟩
  · -- no match in bucket `lb`: the first one is the header of bucket `lb + 1`
    rw [if_pos rfl]
    refine PrefixChar.of_ends hsort q (i0 := lb * clamp b0) ((getElem?_hd b0 S (Nat.le_add_left 1 lb)).mpr ⟨hlb2, rfl⟩)
      hc (header_match hS hq (Nat.le_add_left 1 lb) hlb2 (hhdr (lb + 1) (Nat.lt_succ_self lb) hlr)) hmc
      (fun i s hi hs => ?_) hnext rfl (by omega)
    obtain ⟨h, rfl⟩ := List.getElem?_eq_some_iff.mp hs
    exact before_next h1 hbefore (hB ▸ hnone) i h hi
  · rw [hsplit] at hB
    rw [if_neg (by omega)]
    exact PrefixChar.of_ends hsort q (bucketOf_at hB) hc hm hmc (bucketOf_prefix hB hbefore hA) hnext (by omega)
      (by omega)

theorem locatePrefix_single (hS : ∀ s ∈ S, nulFree s) (hsort : SortedLt S) (hq : nulFree q) (k : Nat) (h1 : 1 ≤ k)
    (h2 : k ≤ (build b0 S).buckets) (hbb : boundaryBuckets (build b0 S) q = some (k, k))
    (hbefore : ∀ i (h : i < S.length), i < (k - 1) * clamp b0 → isPrefix q S[i] = false)
    (hafter : ∀ i (h : i < S.length), k * clamp b0 ≤ i → isPrefix q S[i] = false) :
    ∃ lo hi, locatePrefix (build b0 S) q = some (lo, hi) ∧ PrefixChar S q lo hi := by
  obtain ⟨ptr, hh, leftID, ptr', dec, hsp, hzero, hnzero⟩ := single_bucket b0 S q hS hsort hq k h1 h2 hbefore hafter
  simp only [locatePrefix, hbb, if_neg (Nat.ne_of_gt h1), hh, hsp, ↓reduceIte]
  by_cases hl0 : leftID = 0
  · rw [if_pos hl0]
    exact ⟨0, 0, rfl, Or.inl ⟨rfl, rfl, hzero hl0⟩⟩
  · obtain ⟨cnt, hcnt, hchar⟩ := hnzero hl0
    rw [if_neg hl0, hcnt]
    exact ⟨_, _, rfl, hchar⟩

/-- **`StringDictionaryPFC::locatePrefix` is exact** on every built dictionary: `(0, 0)` when no member starts with
the pattern, otherwise the ID range `[lo, hi]` of the members that do (`PrefixChar`); every read is inside the text. -/
theorem locatePrefix_build (hne : S ≠ []) (hS : ∀ s ∈ S, nulFree s) (hsort : SortedLt S) (hq : nulFree q) :
    ∃ lo hi, locatePrefix (build b0 S) q = some (lo, hi) ∧ PrefixChar S q lo hi := by
  obtain ⟨lb, rb, hbb, hcase⟩ := boundaryBuckets_spec b0 S q hne hS hsort
  rcases hcase with ⟨hlr, hrn, hnz, hlow, hhigh⟩ | ⟨F, Lz, hF1, hFL, hLn, hlbF, hrbL, hz, hlow, hhigh⟩
  · subst hlr
    have hafter := after_bucket hS hsort hq hhigh
    by_cases hR0 : lb = 0
    · subst hR0
      exact ⟨0, 0, by unfold locatePrefix; rw [hbb]; rfl, Or.inl ⟨rfl, rfl, fun i h => hafter i h (by simp)⟩⟩
    · have h1 := Nat.pos_of_ne_zero hR0
      exact locatePrefix_single b0 S q hS hsort hq lb h1 hrn hbb
        (before_bucket hS hsort hq hrn fun _ => hlow lb h1 (Nat.le_refl _)) hafter
  · subst hrbL
    have hlb : 1 ≤ lb ∧ lb ≤ rb ∧ F ≤ lb + 1 ∧ (1 < lb → lb < F) := by rw [hlbF]; split <;> omega
    have hbefore := before_bucket hS hsort hq (Nat.le_trans hlb.2.1 hLn) fun h => hlow lb hlb.1 (hlb.2.2.2 h)
    have hafter := after_bucket hS hsort hq hhigh
    by_cases hsame : lb = rb
    · subst hsame
      exact locatePrefix_single b0 S q hS hsort hq lb hlb.1 hLn hbb hbefore hafter
    · obtain ⟨ptr, hh, leftID, ptr', dec, hsp, ptr2, hh2, cnt, hcnt, hchar⟩ :=
        multi_bucket b0 S q hS hsort hq lb rb hlb.1 (Nat.lt_of_le_of_ne hlb.2.1 hsame) hLn
          (fun k h1 h2 => hz k (Nat.le_trans hlb.2.2.1 h1) h2) hbefore hafter
      simp only [locatePrefix, hbb, if_neg (Nat.ne_of_gt hlb.1), hh, hsp, if_neg hsame, hh2, hcnt]
      exact ⟨_, _, rfl, hchar⟩

end

end CSD.PFC
