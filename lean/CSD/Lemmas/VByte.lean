import CSD.Model.VByte

/-! `VByte`: `decode ∘ encode = id`, for the ideal decoder and for the 32-bit machine. -/
namespace CSD.VByte

theorem or_shift_eq_add {acc x s : Nat} (h : acc < 2 ^ s) :
    acc ||| (x <<< s) = acc + x * 2 ^ s := by
  rw [Nat.or_comm, ← Nat.shiftLeft_add_eq_or_of_lt h, Nat.shiftLeft_eq, Nat.add_comm]

theorem encode_of_gt {c : Nat} (h : c > 127) : encode c = (c % 128).toUInt8 :: encode (c / 128) := by
  rw [encode, dif_pos h]

theorem encode_of_le {c : Nat} (h : ¬ c > 127) : encode c = [(c + 128).toUInt8] := by
  rw [encode, dif_neg h]

theorem encode_length_pos (c : Nat) : 0 < (encode c).length := by
  unfold encode; split <;> exact Nat.succ_pos _

theorem decodeAux_encode (c : Nat) (rest : List UInt8) (shift acc n : Nat) (hacc : acc < 2 ^ shift) :
    decodeAux (encode c ++ rest) shift acc n = some (acc + c * 2 ^ shift, n + (encode c).length) := by
  induction c using encode.induct generalizing shift acc n with
  | case1 c h ih =>
    have hm : c % 128 < 128 := Nat.mod_lt c (by decide)
    have hb : (c % 128).toUInt8.toNat = c % 128 := UInt8.toNat_ofNat_of_lt' (Nat.lt_trans hm (by decide))
    have h1 : c % 128 * 2 ^ shift ≤ 127 * 2 ^ shift := Nat.mul_le_mul_right _ (Nat.le_of_lt_succ hm)
    rw [encode_of_gt h, List.cons_append, decodeAux, hb, if_neg (Nat.not_le.mpr hm), Nat.mod_mod, or_shift_eq_add hacc,
      ih (shift + 7) _ (n + 1) (by rw [Nat.pow_add]; omega), List.length_cons]
    -- `acc + c % 128 * 2 ^ shift + c / 128 * 2 ^ (shift + 7) = acc + c * 2 ^ shift`, and `n + 1 + len = n + (len + 1)`
    rw [Nat.add_assoc acc, Nat.pow_add, ← Nat.mul_assoc, Nat.mul_right_comm (c / 128), ← Nat.add_mul, Nat.mod_add_div',
      Nat.add_assoc n, Nat.add_comm 1]
  | case2 c h =>
    have hc : c < 128 := Nat.lt_succ_of_le (Nat.le_of_not_gt h)
    have hb : (c + 128).toUInt8.toNat = c + 128 := UInt8.toNat_ofNat_of_lt' (Nat.add_lt_add_right hc 128)
    rw [encode_of_le h, List.singleton_append, decodeAux, hb, if_pos (Nat.le_add_left _ _), Nat.add_mod_right,
      Nat.mod_eq_of_lt hc, or_shift_eq_add hacc]
    rfl

theorem decode_encode (c : Nat) (rest : List UInt8) :
    decode (encode c ++ rest) = some (c, (encode c).length) := by
  rw [decode, decodeAux_encode c rest 0 0 0 (Nat.two_pow_pos 0), Nat.zero_add, Nat.zero_add, Nat.pow_zero, Nat.mul_one]

theorem decodeAux_bounds {l : List UInt8} {shift acc n v k : Nat} (h : decodeAux l shift acc n = some (v, k)) :
    acc ≤ v ∧ n < k := by
  induction l generalizing shift acc n with
  | nil => cases h
  | cons b l ih =>
    rw [decodeAux] at h
    split at h
    · cases h
      exact ⟨Nat.left_le_or, Nat.lt_succ_self n⟩
    · exact ⟨Nat.le_trans Nat.left_le_or (ih h).1, Nat.lt_of_succ_lt (ih h).2⟩

/-- `m` bounds the number of bytes before the last, hence the last shift; that bound cannot go:
`[0, 0, 0, 0, 0, 0x80]` decodes to 0 ideally and shifts by 35. -/
theorem decode32Aux_eq {l : List UInt8} {shift acc n v k : Nat} (m : Nat) (h : decodeAux l shift acc n = some (v, k))
    (hv : v < 2 ^ 32) (hk : k ≤ n + m + 1) (hs : shift + 7 * m < 32) : decode32Aux l shift acc n = .ok v k := by
  induction l generalizing shift acc n m with
  | nil => cases h
  | cons b l ih =>
    rw [decodeAux] at h
    -- the accumulator never exceeds the final value, so the `uint` wrap loses nothing and every shifted payload stays
    -- inside 32 bits
    have hle : acc ||| (b.toNat % 128) <<< shift ≤ v := by
      split at h
      · cases h
        exact Nat.le_refl _
      · exact (decodeAux_bounds h).1
    rw [decode32Aux, if_neg (Nat.not_le.mpr (Nat.lt_of_le_of_lt (Nat.le_add_right _ _) hs))]
    simp only [Nat.mod_eq_of_lt (Nat.lt_of_le_of_lt (Nat.le_trans Nat.right_le_or hle) hv),
      Nat.mod_eq_of_lt (Nat.lt_of_le_of_lt hle hv)]
    split at h
    next hb =>
      rw [if_pos hb]
      cases h
      rfl
    next hb =>
      rw [if_neg hb]
      cases m with
      | zero => exact absurd hk (Nat.not_le.mpr (decodeAux_bounds h).2)
      | succ m =>
        rw [Nat.mul_succ, ← Nat.add_assoc, Nat.add_right_comm] at hs
        exact ih m h (Nat.add_right_comm n 1 m ▸ hk) hs

theorem encode_length_le (c k : Nat) (hk : 0 < k) (h : c < 2 ^ (7 * k)) : (encode c).length ≤ k := by
  induction c using encode.induct generalizing k with
  | case1 c hc ih =>
    obtain ⟨k, rfl⟩ : ∃ k', k = k' + 1 := ⟨k - 1, (Nat.succ_pred_eq_of_pos hk).symm⟩
    rw [Nat.mul_succ, Nat.pow_add] at h
    have hk' : 0 < k := Nat.pos_of_ne_zero fun h0 => by subst h0; exact Nat.not_lt.mpr hc h
    rw [encode_of_gt hc, List.length_cons]
    exact Nat.succ_le_succ (ih k hk' ((Nat.div_lt_iff_lt_mul (by decide)).mpr h))
  | case2 c hc => rw [encode_of_le hc]; exact hk

/-- The RPFC and RPHTFC constructors rely on this when they reserve `maxlength + 6` bytes per string. -/
theorem encode_length_le_five (c : Nat) (h : c < 2 ^ 32) : (encode c).length ≤ 5 :=
  encode_length_le c 5 (by decide) (Nat.lt_of_lt_of_le h (by decide))

theorem decode32_encode (c : Nat) (h : c < 2 ^ 32) (rest : List UInt8) :
    decode32 (encode c ++ rest) = .ok c (encode c).length :=
  decode32Aux_eq 4 (decode_encode c rest) h (encode_length_le_five c h) (by decide)

end CSD.VByte
