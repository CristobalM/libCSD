import CSD.Lemmas.PoolEdges

/-! The lock invariant `Inv` of the repaired pool, `not_stuck` under it, and its preservation, by what an edge
does to the mutex (nothing, acquire, release). -/
namespace CSD.Pool

/-- pcs at which a worker holds `shared_mutex`. -/
def WPc.holding : WPc → Bool
  | .pred | .sleep | .check => true
  | _ => false

/-- pcs at which the producer holds `shared_mutex`. -/
def PPc.holding : PPc → Bool
  | .addPush _ _ | .stopSet _ => true
  | _ => false

/-- The producer has changed (or is about to change, holding the mutex) the
shared state and has a `notify_all` ahead of it. -/
def PPc.willNotify : PPc → Bool
  | .addPush _ _ | .addNotify _ | .stopSet _ | .stopNotify => true
  | _ => false

/-- The producer has started `stop_all_workers` (no `add_task` remains). -/
def PPc.stopping : PPc → Bool
  | .stopSet _ | .stopNotify | .join | .done => true
  | _ => false

structure Inv (s : State) : Prop where
  mutexW : ∀ i, s.mutex = some (.worker i) ↔ (i < s.n ∧ (s.wpc i).holding = true)
  mutexP : s.mutex = some .prod ↔ s.prod.holding = true
  mutexS : ∀ i, s.mutex ≠ some (.spurious i)
  /-- a worker about to block has (still) a false predicate -/
  sleepFalse : ∀ i, i < s.n → s.wpc i = .sleep → s.stopped i = false ∧ s.queue = []
  /-- a blocked worker whose predicate is true has a notification coming -/
  waitingOk : ∀ i, i < s.n → s.wpc i = .waiting → (s.stopped i = true ∨ s.queue ≠ []) →
    s.prod.willNotify = true
  /-- stop flags: set only by `stop_all_workers`, all set once it is past its loop -/
  flagsOnlyStop : ∀ i, s.stopped i = true → s.prod.stopping = true
  flagsAll : (s.prod = .stopNotify ∨ s.prod = .join ∨ s.prod = .done) → ∀ i, i < s.n → s.stopped i = true
  flagsPrefix : ∀ k, s.prod = .stopSet k → ∀ i, i < k → s.stopped i = true
  doneAll : s.prod = .done → ∀ i, i < s.n → s.wpc i = .done

theorem inv_init (n : Nat) (tasks : List Nat) : Inv (init n tasks) := by
  cases tasks <;> exact {
    mutexW := fun i => ⟨nofun, fun h => nomatch h.2⟩
    mutexP := ⟨nofun, nofun⟩
    mutexS := nofun
    sleepFalse := nofun
    waitingOk := nofun
    flagsOnlyStop := nofun
    flagsAll := (·.elim nofun (·.elim nofun nofun))
    flagsPrefix := nofun
    doneAll := nofun }

-- `Step` describes enabled steps only: these two go to the model
theorem blocked_worker {s : State} {i : Nat} (hi : i < s.n) (h : stepWorker s i = none) :
    (s.wpc i).holding = false ∧ (s.mutex = none → s.wpc i = .waiting ∨ s.wpc i = .done) := by
  rw [stepWorker, if_neg (Nat.not_le_of_lt hi)] at h
  split at h <;> rename_i hpc
  · cases h
  · cases h
  · exact ⟨hpc ▸ rfl, fun hm => nomatch (if_pos hm).symm.trans h⟩
  · cases h
  · cases h
  · exact ⟨hpc ▸ rfl, fun _ => .inl hpc⟩
  · exact ⟨hpc ▸ rfl, fun hm => nomatch (if_pos hm).symm.trans h⟩
  · split at h
    · cases h
    · split at h
      · cases h
      · cases h
  · cases h
  · cases h
  · cases h
  · exact ⟨hpc ▸ rfl, fun _ => .inr hpc⟩

theorem blocked_prod {s : State} (h : stepProd s = none) :
    s.prod.holding = false ∧
      (s.mutex = none → s.prod = .done ∨ (s.prod = .join ∧ ¬ ∀ i, i < s.n → s.wpc i = .done)) := by
  unfold stepProd at h
  split at h <;> rename_i hp
  · exact ⟨hp ▸ rfl, fun hm => nomatch (if_pos hm).symm.trans h⟩
  · cases h
  · cases h
  · exact ⟨hp ▸ rfl, fun hm => nomatch (if_pos hm).symm.trans h⟩
  · split at h
    · cases h
    · cases h
  · cases h
  · exact ⟨hp ▸ rfl, fun _ => .inr ⟨hp, fun hall => nomatch (if_pos hall).symm.trans h⟩⟩
  · exact ⟨hp ▸ rfl, fun _ => .inl hp⟩

namespace Inv
variable {s : State} (hI : Inv s)
include hI

theorem exclusive {i j : Nat} (hi : i < s.n ∧ (s.wpc i).holding = true) (hj : j < s.n ∧ (s.wpc j).holding = true) :
    i = j :=
  Tid.worker.inj (Option.some.inj (((hI.mutexW i).mpr hi).symm.trans ((hI.mutexW j).mpr hj)))

theorem prod_not_done {i : Nat} (hi : i < s.n) (h : s.wpc i ≠ .done) : s.prod ≠ .done :=
  fun hd => h (hI.doneAll hd i hi)

theorem not_stuck (hnd : s.prod ≠ .done) : ¬ Stuck step s := by
  intro ⟨hP, hW⟩
  -- a thread inside its critical section is never blocked, so the mutex is free
  have hm : s.mutex = none := by
    cases hm : s.mutex with
    | none => rfl
    | some t =>
      cases t with
      | prod => exact nomatch (hI.mutexP.mp hm).symm.trans (blocked_prod hP).1
      | worker i =>
        have ⟨hi, hh⟩ := (hI.mutexW i).mp hm
        exact nomatch hh.symm.trans (blocked_worker hi (hW i)).1
      | spurious i => exact absurd hm (hI.mutexS i)
  -- hence the producer is in `join` and some worker sleeps in the condition variable
  rcases (blocked_prod hP).2 hm with hp | ⟨hp, hall⟩
  · exact hnd hp
  · apply hall
    intro i hi
    rcases (blocked_worker hi (hW i)).2 hm with hw | hw
    · -- all flags are set and nobody will notify: excluded by the invariant
      exact nomatch hp ▸ hI.waitingOk i hi hw (.inl (hI.flagsAll (.inr (.inl hp)) i hi))
    · exact hw

/-! Reading an effect lemma and a row of the three edge tables: the new pc and the fields left free (so that one
lemma fits many edges) are implicit, found by unifying the conclusion with the goal of the `Step` case; a condition
on the pcs alone is closed by its default, the pcs being constructors by then (`cases r` makes `nextAdd r` one);
an argument is written exactly where a condition depends on the state. -/

theorem move {i : Nat} {p v : WPc} (hi : i < s.n) (hpc : s.wpc i = p) {r : List Nat}
    (hp : p ≠ .done := by nofun) (hv : v.holding = p.holding := by rfl) (hw : v ≠ .waiting := by nofun)
    (hsl : v = .sleep → s.stopped i = false ∧ s.queue = [] := by nofun) :
    Inv { s with ran := r, wpc := upd s.wpc i v } :=
  { hI with
    mutexW := forall_upd (P := fun j (p : WPc) => s.mutex = some (.worker j) ↔ j < s.n ∧ p.holding = true)
      (fun j _ => hI.mutexW j) (hv ▸ hpc ▸ hI.mutexW i)
    sleepFalse := forall_upd_eq hI.sleepFalse fun _ => hsl
    waitingOk := forall_upd_eq hI.waitingOk fun _ h => absurd h hw
    doneAll := fun h => absurd h (hI.prod_not_done hi (hpc ▸ hp)) }

theorem acquire {i : Nat} {p : WPc} (hi : i < s.n) (hpc : s.wpc i = p) (hm : s.mutex = none)
    (hp : p ≠ .done := by nofun) :
    Inv { s with mutex := some (.worker i), wpc := upd s.wpc i .pred } :=
  { hI with
    mutexW := forall_upd (P := fun j (p : WPc) => some (Tid.worker i) = some (.worker j) ↔ j < s.n ∧ p.holding = true)
      (fun j e => ⟨fun h => absurd (Tid.worker.inj (Option.some.inj h)).symm e,
        fun h => nomatch hm ▸ (hI.mutexW j).mpr h⟩)
      ⟨fun _ => ⟨hi, rfl⟩, fun _ => rfl⟩
    mutexP := ⟨nofun, fun h => nomatch hm ▸ hI.mutexP.mpr h⟩
    mutexS := nofun
    sleepFalse := forall_upd_eq hI.sleepFalse nofun
    waitingOk := forall_upd_eq hI.waitingOk nofun
    doneAll := fun h => absurd h (hI.prod_not_done hi (hpc ▸ hp)) }

theorem release {i : Nat} {p v : WPc} {q : List Nat} (hi : i < s.n) (hpc : s.wpc i = p)
    (hq : s.queue = [] → q = []) (hp : p.holding = true := by rfl) (hv : v.holding = false := by rfl)
    (hw : v = .waiting → s.stopped i = false ∧ s.queue = [] := by nofun) :
    Inv { s with queue := q, mutex := none, wpc := upd s.wpc i v } := by
  have hold : i < s.n ∧ (s.wpc i).holding = true := ⟨hi, hpc ▸ hp⟩
  have hown : s.mutex = some (.worker i) := (hI.mutexW i).mpr hold
  exact { hI with
    mutexW := forall_upd (P := fun j (p : WPc) => none = some (Tid.worker j) ↔ j < s.n ∧ p.holding = true)
      (fun j e => ⟨nofun, fun h => absurd (hI.exclusive h hold) e⟩)
      ⟨nofun, fun h => nomatch hv.symm.trans h.2⟩
    mutexP := ⟨nofun, fun h => nomatch hown.symm.trans (hI.mutexP.mpr h)⟩
    mutexS := nofun
    sleepFalse := forall_upd_eq (fun j hj hs => (hI.sleepFalse j hj hs).imp_right hq)
      (fun _ h => nomatch h ▸ hv)
    waitingOk := forall_upd_eq
      (fun j hj hs hpred => hI.waitingOk j hj hs (hpred.imp_right (mt hq)))
      (fun _ h hpred =>
        have ⟨hst, hempty⟩ := hw h
        hpred.elim (fun e => nomatch hst.symm.trans e) (absurd (hq hempty)))
    doneAll := fun h => absurd h (hI.prod_not_done hi fun e => nomatch e ▸ hold.2) }

theorem prodAcquire {p : PPc} (hm : s.mutex = none) (hstop : s.prod.stopping = false)
    (hk : ∀ k, p = .stopSet k → k = 0 := by nofun) (hp : p.holding = true := by rfl) (hw : p.willNotify = true := by rfl)
    (hn1 : p ≠ .stopNotify := by nofun) (hn2 : p ≠ .join := by nofun) (hn3 : p ≠ .done := by nofun) :
    Inv { s with mutex := some .prod, prod := p } :=
  { hI with
    mutexW := fun j => ⟨nofun, fun h => nomatch hm ▸ (hI.mutexW j).mpr h⟩
    mutexP := ⟨fun _ => hp, fun _ => rfl⟩
    mutexS := nofun
    waitingOk := fun _ _ _ _ => hw
    flagsOnlyStop := fun i h => nomatch (hI.flagsOnlyStop i h).symm.trans hstop
    flagsAll := fun h => h.elim (absurd · hn1) (·.elim (absurd · hn2) (absurd · hn3))
    flagsPrefix := fun k h _ hi => nomatch hk k h ▸ hi
    doneAll := fun h => absurd h hn3 }

theorem prodRelease {p : PPc} {q a : List Nat} (hold : s.prod.holding = true)
    (hfo : ∀ i, s.stopped i = true → p.stopping = true)
    (hfa : (p = .stopNotify ∨ p = .join ∨ p = .done) → ∀ i, i < s.n → s.stopped i = true := by
      exact (·.elim nofun (·.elim nofun nofun)))
    (hp : p.holding = false := by rfl) (hw : p.willNotify = true := by rfl) :
    Inv { s with queue := q, added := a, mutex := none, prod := p } := by
  have hown : s.mutex = some .prod := hI.mutexP.mpr hold
  have hfree (j : Nat) : ¬ (j < s.n ∧ (s.wpc j).holding = true) := fun h => nomatch hown ▸ (hI.mutexW j).mpr h
  exact {
    mutexW := fun j => ⟨nofun, fun h => absurd h (hfree j)⟩
    mutexP := ⟨nofun, fun h => nomatch hp.symm.trans h⟩
    mutexS := nofun
    sleepFalse := fun j hj hs => absurd ⟨hj, hs ▸ rfl⟩ (hfree j)
    waitingOk := fun _ _ _ _ => hw
    flagsOnlyStop := hfo
    flagsAll := hfa
    flagsPrefix := fun k (h : p = _) => nomatch h ▸ hp
    doneAll := fun (h : p = _) => nomatch h ▸ hw }

theorem prodNotify {p : PPc} (hold : p.holding = s.prod.holding)
    (hstopping : s.prod.stopping = true → p.stopping = true)
    (hflags : (p = .stopNotify ∨ p = .join ∨ p = .done) → ∀ i, i < s.n → s.stopped i = true := by
      exact (·.elim nofun (·.elim nofun nofun)))
    (hk : ∀ k, p = .stopSet k → s.prod = .stopSet k := by nofun) (hd : p = .done → s.prod = .done := by nofun) :
    Inv (notifyAll { s with prod := p }) :=
  { hI with
    mutexW := fun j => by
      rw [apply_notifyAll WPc.holding rfl]
      exact hI.mutexW j
    mutexP := by
      rw [notifyAll_prod, hold]
      exact hI.mutexP
    sleepFalse := fun j hj hs => hI.sleepFalse j hj (of_notifyAll (· = .sleep) nofun hs)
    waitingOk := fun j _ hs => absurd hs (notifyAll_ne_waiting _ j)
    flagsOnlyStop := fun i h => hstopping (hI.flagsOnlyStop i h)
    flagsAll := hflags
    flagsPrefix := fun k h => hI.flagsPrefix k (hk k h)
    doneAll := fun h j hj => by
      have := hI.doneAll (hd h) j hj
      exact (if_neg (this ▸ nofun)).trans this }

theorem notify : Inv (notifyAll s) :=
  hI.prodNotify (p := s.prod) rfl id hI.flagsAll (fun _ => id) id

theorem stopSet {k : Nat} (hp : s.prod = .stopSet k) :
    Inv { s with stopped := upd s.stopped k true, prod := .stopSet (k + 1) } := by
  have hown : s.mutex = some .prod := hI.mutexP.mpr (hp ▸ rfl)
  exact { hI with
    mutexP := ⟨fun _ => rfl, fun _ => hown⟩
    sleepFalse := fun j hj hs => nomatch hown ▸ (hI.mutexW j).mpr ⟨hj, hs ▸ rfl⟩
    waitingOk := fun _ _ _ _ => rfl
    flagsOnlyStop := fun _ _ => rfl
    flagsAll := nofun
    flagsPrefix := fun k' h i hi => by
      cases h
      exact forall_upd (P := fun i b => i < k + 1 → b = true)
        (fun i e hi => hI.flagsPrefix k hp i (Nat.lt_of_le_of_ne (Nat.le_of_lt_succ hi) e)) (fun _ => rfl) i hi
    doneAll := nofun }

theorem join (hp : s.prod = .join) (hall : ∀ i, i < s.n → s.wpc i = .done) :
    Inv { s with prod := .done } :=
  { hI with
    mutexP := ⟨fun h => absurd (hp ▸ hI.mutexP.mp h) nofun, nofun⟩
    waitingOk := fun j hj hs => nomatch (hall j hj).symm.trans hs
    flagsOnlyStop := fun _ _ => rfl
    flagsAll := fun _ => hI.flagsAll (.inr (.inl hp))
    flagsPrefix := nofun
    doneAll := fun _ => hall }

theorem preserved {s' : State} {t : Tid} (h : Step s t s') : Inv s' := by
  -- rows: see before `move`
  induction h with
  | loopStopped_set hi hpc _ | loopStopped_clear hi hpc _ | loopEmpty_exit hi hpc _ | loopEmpty_go hi hpc _
  | pred_true hi hpc _ | run hi hpc | spurious hi hpc => exact hI.move hi hpc
  | pred_false hi hpc hst hq => exact hI.move hi hpc (hsl := fun _ => ⟨hst, hq⟩)
  | unlocked hi hpc | exitNotify hi hpc => exact (hI.move hi hpc).notify
  | lock hi hpc hm | wake hi hpc hm => exact hI.acquire hi hpc hm
  | sleep hi hpc => exact hI.release hi hpc id (hw := fun _ => hI.sleepFalse _ hi hpc)
  | check_exit hi hpc _ _ | check_continue hi hpc _ _ => exact hI.release hi hpc id
  | check_pop hi hpc hq => exact hI.release hi hpc fun h => nomatch hq.symm.trans h
  | addLock hp hm => exact hI.prodAcquire hm (hp ▸ rfl)
  | addPush hp => exact hI.prodRelease (hp ▸ rfl) fun i h => nomatch hp ▸ hI.flagsOnlyStop i h
  | @addNotify r hp => cases r <;> exact hI.prodNotify (hp ▸ rfl) (fun h => nomatch hp ▸ h)
  | stopLock hp hm => exact hI.prodAcquire hm (hp ▸ rfl) (hk := fun _ h => (PPc.stopSet.inj h).symm)
  | stopSet_lt hp _ => exact hI.stopSet hp
  | stopSet_ge hp hk =>
    exact hI.prodRelease (hp ▸ rfl) (fun _ _ => rfl)
      (hfa := fun _ i hi => hI.flagsPrefix _ hp i (Nat.lt_of_lt_of_le hi (Nat.le_of_not_lt hk)))
  | stopNotify hp => exact hI.prodNotify (hp ▸ rfl) (fun _ => rfl) (hflags := fun _ => hI.flagsAll (.inl hp))
  | join hp hall => exact hI.join hp hall

end Inv

theorem inv_reachable {n : Nat} {tasks : List Nat} {s : State} (h : Reachable n tasks s) : Inv s := by
  induction h with
  | init => exact inv_init n tasks
  | step _ hs ih => exact ih.preserved (.of_step hs)

end CSD.Pool
