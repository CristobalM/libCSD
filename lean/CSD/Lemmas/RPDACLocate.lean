import CSD.Lemmas.RPDACStrcmp
import CSD.Lemmas.RPDACSearch

/-! `locate` and `extract` of RPDAC over any grammar and sequences that represent the dictionary: `strcmp` against
the members is sign-monotone in the ID, so the binary search finds `Spec.locate`. -/
namespace CSD.RPDAC
open CSD CSD.RePair CSD.PFC CSD.Search

theorem locateLoop_spec (S : List Str) (q : Str) (hS : ∀ s ∈ S, nulFree s) (hq : nulFree q) (hsort : SortedLt S)
    (cmp : Nat → Option Int)
    (hcmp : ∀ id (h1 : 1 ≤ id) (h2 : id ≤ S.length), cmp id = some (scmp (S[id - 1]'(by omega)) q)) :
    ∀ (fuel left right : Nat), 1 ≤ left → right ≤ S.length → right + 1 - left < fuel →
      (∀ id (h1 : 1 ≤ id) (h2 : id ≤ S.length), id < left → scmp (S[id - 1]'(by omega)) q < 0) →
      (∀ id (h1 : 1 ≤ id) (h2 : id ≤ S.length), right < id → scmp (S[id - 1]'(by omega)) q > 0) →
      locateLoop cmp fuel left right = some (Spec.locate S q) := by
  intro fuel left right hl hr hf hlow hhigh
  have hget := fun {id} => along_get S (scmp · q) (id := id)
  have b : Bracket S.length (along S (scmp · q)) left right :=
    ⟨hl, hr, fun id h1 h2 h3 => by rw [hget h1 h3]; exact hlow id h1 h3 h2,
      fun id h1 h2 => by rw [hget (Nat.zero_lt_of_lt h1) h2]; exact hhigh id (Nat.zero_lt_of_lt h1) h2 h1⟩
  rcases locateLoop_zero (along_mono hS hsort _ fun _ _ => scmp_mono) cmp
      (fun id h1 h2 => by rw [hcmp id h1 h2, hget h1 h2]) fuel left right b hf with ⟨h, hz⟩ | ⟨c, h, h1, h2, hz⟩
  · rw [h, Spec.locate_not_mem]
    intro hmem
    obtain ⟨t, ht, rfl⟩ := List.mem_iff_getElem.mp hmem
    exact hz (t + 1) (Nat.le_add_left 1 t) ht ((hget (Nat.le_add_left 1 t) ht).trans (scmp_self _))
  · rw [hget h1 h2] at hz
    have hi : c - 1 < S.length := Nat.sub_one_lt_of_le h1 h2
    rw [h, ← (scmp_eq_zero (hS _ (List.getElem_mem hi)) hq).mp hz, Spec.locate_getElem hsort (c - 1) hi,
      Nat.sub_add_cancel h1]

/-- The grammar and the symbol sequences represent the dictionary `S` (whatever Re-Pair chose):
well-formed rules, valid symbols, and the `i`-th sequence expands to the `i`-th string. -/
structure Represents (d : D) (S : List Str) : Prop where
  wf : d.g.wf = true
  len : d.seqs.length = S.length
  valid : ∀ syms ∈ d.seqs, ∀ s ∈ syms, s < d.g.terminals + d.g.rules.length
  exp : ∀ i (h1 : i < d.seqs.length) (h2 : i < S.length), d.g.expand d.seqs[i] = bytesNat S[i]

/-- The comparison `locate` and `locatePrefix` search with: `c` on the sequence stored for the ID. -/
def idCmp (d : D) (c : List Nat → Option Int) (id : Nat) : Option Int :=
  match d.seqs[id - 1]? with
  | some syms => c syms
  | none => none

theorem idCmp_along {d : D} {S : List Str} (r : Represents d S) (hS : ∀ s ∈ S, nulFree s)
    {c : List Nat → Option Int} {g : Str → Int}
    (hc : ∀ syms s, (∀ x ∈ syms, x < d.g.terminals + d.g.rules.length) → d.g.expand syms = bytesNat s → nulFree s →
      c syms = some (g s)) (id : Nat) (h1 : 1 ≤ id) (h2 : id ≤ S.length) : idCmp d c id = some (along S g id) := by
  have hi : id - 1 < d.seqs.length := r.len ▸ Nat.sub_one_lt_of_le h1 h2
  unfold idCmp
  rw [List.getElem?_eq_getElem hi, along_get S g h1 h2]
  exact hc _ _ (r.valid _ (List.getElem_mem hi)) (r.exp (id - 1) hi (r.len ▸ hi)) (hS _ (List.getElem_mem _))

theorem locate_represents (d : D) (S : List Str) (r : Represents d S) (hS : ∀ s ∈ S, nulFree s)
    (hsort : SortedLt S) (q : Str) (hq : nulFree q) : locate d (bytesNat q) = some (Spec.locate S q) := by
  show locateLoop (idCmp d (compareDAC d.g · (bytesNat q))) (d.seqs.length + 1) 1 d.seqs.length = _
  rw [r.len]
  refine locateLoop_spec S q hS hq hsort _ (fun id h1 h2 => ?_) (S.length + 1) 1 S.length (Nat.le_refl _) (Nat.le_refl _)
    (Nat.lt_succ_self _) (fun id h1 _ h3 => absurd h1 (Nat.not_le.mpr h3))
    (fun id _ h2 h3 => absurd h2 (Nat.not_le.mpr h3))
  rw [← along_get S (scmp · q) h1 h2]
  exact idCmp_along r hS (fun syms s hv he hs => compareDAC_eq d.g r.wf syms hv s q he hs hq) id h1 h2

theorem extract_represents (d : D) (S : List Str) (r : Represents d S) (id : Nat) :
    extract d id = if h : 1 ≤ id ∧ id ≤ S.length then some (bytesNat (S[id - 1]'(by omega))) else none := by
  have hc : (id = 0 ∨ id > d.seqs.length) ↔ ¬(1 ≤ id ∧ id ≤ S.length) := by
    rw [r.len, Decidable.not_and_iff_not_or_not, Nat.not_le, Nat.not_le, Nat.lt_one_iff]
  unfold extract
  by_cases h : 1 ≤ id ∧ id ≤ S.length
  · have hi : id - 1 < S.length := Nat.sub_one_lt_of_le h.1 h.2
    rw [dif_pos h, if_neg (mt hc.mp (not_not_intro h)), List.getElem?_eq_getElem (r.len ▸ hi)]
    simp only
    rw [r.exp (id - 1) (r.len ▸ hi) hi]
  · rw [dif_neg h, if_pos (hc.mpr h)]

theorem extract_bad_id (d : D) (S : List Str) (r : Represents d S) (i : Nat)
    (h : i = 0 ∨ i > S.length) : extract d i = none := by
  rw [extract_represents d S r i, dif_neg (by omega)]

end CSD.RPDAC
