import CSD.Lemmas.FMStep
import CSD.Lemmas.ListIdx

/-! The backward search of `SSA::locate_id` / `locateP` / `locate` keeps `sp = lo L P` and `ep + 1 = lo L P + occs L P`
for the consumed part `P` of the pattern; on an index built from a suffix array (`Built`, `BuiltS`: the model's own
build provides them) it is total and returns the block of the pattern. -/
namespace CSD.FM

/-- What `build_index` guarantees about the query-time object. -/
structure Built (T : List Sym) (L : List Row) (ix : Index) : Prop where
  bwt : ix.bwt = L.map Row.bwt
  alpha : ∀ c, c < 256 → ix.alphabet[c]? = some (decide (c ∈ ix.bwt))
  occ : ∀ c, c ≠ 0 → c ∈ ix.bwt → ix.occ[c]? = some (occOf T c) ∧ ix.occ[c + 1]? = some (occOf T (c + 1))

def BSpec (L : List Row) (full : List Sym) : BS → Prop
  | .notInAlphabet => occs L full = 0
  | .range sp ep =>
    (sp ≤ ep ∧ sp = lo L full ∧ ep + 1 = lo L full + occs L full) ∨ (ep < sp ∧ occs L full = 0)

theorem occOf_pos (T : List Sym) (c : Sym) : 1 ≤ occOf T c := Nat.le_add_left 1 _

/-- `ep' + 1 = …` as in the invariant of `bsLoop_spec`: no `- 1` reaches the caller. -/
theorem bsLoop_cons {ix : Index} {c oc : Nat} (rest : List Sym) {sp ep : Nat} (ha : ix.alphabet[c]? = some true)
    (ho : ix.occ[c]? = some oc) (h : sp ≤ ep) (h0 : 1 ≤ sp) (h1 : ep + 1 ≤ ix.bwt.length) (h2 : 1 ≤ oc) :
    ∃ ep', ep' + 1 = oc + cnt ix.bwt c (ep + 1) ∧
      bsLoop ix (c :: rest) sp ep = bsLoop ix rest (oc + cnt ix.bwt c sp) ep' := by
  have hpos : 1 ≤ oc + cnt ix.bwt c (ep + 1) := Nat.le_trans h2 (Nat.le_add_right _ _)
  refine ⟨oc + cnt ix.bwt c (ep + 1) - 1, Nat.sub_add_cancel hpos, ?_⟩
  rw [bsLoop, if_pos h, ha]
  simp only
  rw [ho]
  simp only
  rw [if_neg (Nat.ne_of_gt h0), if_neg (Nat.not_le_of_lt h1), if_neg (Nat.ne_of_gt hpos)]

theorem BSpec.of_inv {L : List Row} {P : List Sym} {sp ep : Nat} (hsp : sp = lo L P)
    (hep : ep + 1 = lo L P + occs L P) : BSpec L P (.range sp ep) := by
  by_cases h : sp ≤ ep
  · exact Or.inl ⟨h, hsp, hep⟩
  · refine Or.inr ⟨Nat.lt_of_not_le h, Nat.eq_zero_of_not_pos fun hpos => h ?_⟩
    rw [hsp]
    exact Nat.le_of_lt_add_one (hep ▸ Nat.lt_add_of_pos_right hpos)

theorem bsLoop_spec {T : List Sym} {L : List Row} {ix : Index} (hSA : IsSA T L) (hB : Built T L ix)
    (rest : List Sym) (hall : ∀ c ∈ rest, c ≠ 0 ∧ c < 256) {P : List Sym} (hP : P ≠ []) {sp ep : Nat}
    (hsp : sp = lo L P) (hep : ep + 1 = lo L P + occs L P) :
    ∃ res, bsLoop ix rest sp ep = some res ∧ BSpec L (rest.reverse ++ P) res := by
  induction rest generalizing P sp ep with
  | nil => exact ⟨.range sp ep, rfl, BSpec.of_inv hsp hep⟩
  | cons c rest ih =>
    have hc := hall c List.mem_cons_self
    rw [List.reverse_cons, List.append_assoc, List.singleton_append]
    by_cases h : sp ≤ ep
    · by_cases hmem : c ∈ ix.bwt
      · have ha : ix.alphabet[c]? = some true := by rw [hB.alpha c hc.2, decide_eq_true hmem]
        have hlen : ep + 1 ≤ ix.bwt.length := by
          rw [hep, hB.bwt, List.length_map]
          exact lo_add_occs_le_length L P
        obtain ⟨ep', he', hstep⟩ := bsLoop_cons rest ha (hB.occ c hc.1 hmem).1 h (hsp ▸ lo_pos hSA hP) hlen
          (occOf_pos T c)
        -- the LF step on both ends (`lo + occs` is the count of `hiP`)
        have hsp' : occOf T c + cnt ix.bwt c sp = lo L (c :: P) := by
          rw [step_lo hSA hc.1, lo_single hSA, hB.bwt, hsp]
        have hep' : ep' + 1 = lo L (c :: P) + occs L (c :: P) :=
          calc ep' + 1 = lo L [c] + cnt (L.map Row.bwt) c (cntq L (hiP P)) := by
                rw [he', lo_single hSA, hB.bwt, cntq_hiP, hep]
            _ = cntq L (hiP (c :: P)) := (step_hi hSA hc.1 P).symm
            _ = lo L (c :: P) + occs L (c :: P) := cntq_hiP L _
        rw [hstep]
        exact ih (fun x hx => hall x (List.mem_cons_of_mem _ hx)) (List.cons_ne_nil c P) hsp' hep'
      · rw [bsLoop, if_pos h, hB.alpha c hc.2, decide_eq_false hmem]
        exact ⟨.notInAlphabet, rfl, occs_eq_zero_of_not_mem_bwt hSA (hB.bwt ▸ hmem) (by simp)⟩
    · rw [bsLoop, if_neg h]
      have ⟨hlt, h0⟩ := (BSpec.of_inv hsp hep).resolve_left fun h' => h h'.1
      exact ⟨.range sp ep, rfl, Or.inr ⟨hlt, occs_eq_zero_of_infix hSA h0
        ((List.suffix_cons c P).trans (List.suffix_append _ _)).isInfix⟩⟩

/-- The backward search is total and exact: a non-empty pattern over `1 .. 255` gets its block `[lo, lo + occs)`
of rows, or the report that there is none. -/
theorem bsearch_spec {T : List Sym} {L : List Row} {ix : Index} (hSA : IsSA T L) (hB : Built T L ix)
    (pat : List Sym) (hne : pat ≠ []) (hall : ∀ c ∈ pat, c ≠ 0 ∧ c < 256) :
    ∃ res, bsearch ix pat = some res ∧ BSpec L pat res := by
  obtain ⟨rest, c, rfl⟩ : ∃ (rest : List Sym) (c : Sym), pat = rest.reverse ++ [c] := by
    obtain ⟨r, c, rfl⟩ := (List.eq_nil_or_concat pat).resolve_left hne
    exact ⟨r.reverse, c, by simp⟩
  have hc := hall c (by simp)
  rw [bsearch, List.reverse_append, List.reverse_reverse]
  simp only [List.reverse_cons, List.reverse_nil, List.nil_append, List.singleton_append]
  rw [hB.alpha c hc.2]
  by_cases hmem : c ∈ ix.bwt
  · have hpos := occOf_pos T (c + 1)
    rw [decide_eq_true hmem, (hB.occ c hc.1 hmem).1, (hB.occ c hc.1 hmem).2]
    simp only
    rw [if_neg (Nat.ne_of_gt hpos)]
    apply bsLoop_spec hSA hB rest (fun x hx => hall x (by simp [hx])) (List.cons_ne_nil c [])
    · rw [lo_single hSA]
    · rw [← cntq_hiP, cntq_congr (hiP_single c), ← lo, lo_single hSA, Nat.sub_add_cancel hpos]
  · rw [decide_eq_false hmem]
    exact ⟨.notInAlphabet, rfl, occs_eq_zero_of_not_mem_bwt hSA (hB.bwt ▸ hmem) (by simp)⟩

section
variable {T : List Sym} {L : List Row} {ix : Index} (hSA : IsSA T L) (hB : Built T L ix)
include hSA hB

theorem bsearch_block (pat : List Sym) (hne : pat ≠ []) (hall : ∀ c ∈ pat, c ≠ 0 ∧ c < 256) :
    (occs L pat = 0 ∧ (bsearch ix pat = some .notInAlphabet ∨ ∃ sp ep, bsearch ix pat = some (.range sp ep) ∧ ep < sp)) ∨
    ∃ n, occs L pat = n + 1 ∧ bsearch ix pat = some (.range (lo L pat) (lo L pat + n)) := by
  obtain ⟨res, hres, hspec⟩ := bsearch_spec hSA hB pat hne hall
  cases res with
  | notInAlphabet => exact Or.inl ⟨hspec, Or.inl hres⟩
  | range sp ep =>
    rcases hspec with ⟨h1, rfl, h3⟩ | ⟨h1, h2⟩
    · obtain ⟨n, rfl⟩ := Nat.exists_eq_add_of_le h1
      exact Or.inr ⟨n, Nat.add_left_cancel (h3.symm.trans (Nat.add_assoc _ n 1)), hres⟩
    · exact Or.inl ⟨h2, Or.inr ⟨sp, ep, hres, h1⟩⟩

theorem locateId_eq (pat : List Sym) (hne : pat ≠ []) (hall : ∀ c ∈ pat, c ≠ 0 ∧ c < 256) :
    locateId ix pat = some (if occs L pat = 0 then 0 else lo L pat) := by
  rw [locateId]
  rcases bsearch_block hSA hB pat hne hall with ⟨h0, hb | ⟨sp, ep, hb, hlt⟩⟩ | ⟨n, hn, hb⟩
  · rw [hb, if_pos h0]
  · rw [hb, if_pos h0]
    exact congrArg some (if_neg (Nat.not_le_of_lt hlt))
  · rw [hb, hn, if_neg (Nat.succ_ne_zero n)]
    exact congrArg some (if_pos (Nat.le_add_right _ n))

/-- `b + 2`: says `2 ≤ lo L pat` and keeps `sp - 2` out of the statement. -/
theorem locateP_eq (pat : List Sym) (hne : pat ≠ []) (hall : ∀ c ∈ pat, c ≠ 0 ∧ c < 256) {b : Nat}
    (h2 : lo L pat = b + 2) :
    locateP ix pat = some (if occs L pat = 0 then (0, 0, 0) else (occs L pat, b, b + occs L pat - 1)) := by
  rw [locateP]
  rcases bsearch_block hSA hB pat hne hall with ⟨h0, hb | ⟨sp, ep, hb, hlt⟩⟩ | ⟨n, hn, hb⟩
  · rw [hb, if_pos h0]
  · rw [hb, if_pos h0]
    exact if_neg (Nat.not_le_of_lt hlt)
  · rw [hb, hn, if_neg (Nat.succ_ne_zero n), h2]
    simp only
    -- `ep - sp + 1 = n + 1`, `sp - 2 = b`, `ep - 2 = b + n`
    rw [if_pos (Nat.le_add_right _ n), if_neg (Nat.not_lt_of_le (Nat.le_add_left 2 b)), Nat.add_sub_cancel_left,
      Nat.add_sub_cancel, Nat.add_right_comm, Nat.add_sub_cancel]
    rfl

theorem locateOccs_eq (hstep : ix.samplesuff ≠ 0) (pat : List Sym) (hne : pat ≠ [])
    (hall : ∀ c ∈ pat, c ≠ 0 ∧ c < 256) :
    locateOccs ix pat = if occs L pat = 0 then some none
      else (walkAll ix (List.range' (lo L pat) (occs L pat))).map some := by
  rw [locateOccs, if_neg hstep]
  rcases bsearch_block hSA hB pat hne hall with ⟨h0, hb | ⟨sp, ep, hb, hlt⟩⟩ | ⟨n, hn, hb⟩
  · rw [hb, if_pos h0]
  · rw [hb, if_pos h0]
    exact if_neg (Nat.not_le_of_lt hlt)
  · rw [hb, hn, if_neg (Nat.succ_ne_zero n)]
    simp only
    rw [if_pos (Nat.le_add_right _ n), Nat.add_sub_cancel_left, List.range'_eq_map_range]

end

theorem isSA_sortRows (T : List Sym) : IsSA T (sortRows T) := by
  unfold sortRows
  refine ⟨List.mergeSort_perm _ _, ?_⟩
  have hle : ((rows T).mergeSort fun a b => decide (a.2 ≤ b.2)).Pairwise (fun a b => decide (a.2 ≤ b.2) = true) :=
    List.pairwise_mergeSort
      (fun a b c h1 h2 => by
        simp only [decide_eq_true_eq] at h1 h2 ⊢
        exact List.le_trans h1 h2)
      (fun a b => by
        simp only [Bool.or_eq_true, decide_eq_true_eq]
        exact List.le_total a.2 b.2) _
  have hne : ((rows T).mergeSort fun a b => decide (a.2 ≤ b.2)).Pairwise (fun a b => a.2 ≠ b.2) :=
    ((List.mergeSort_perm (rows T) _).pairwise_iff (fun {x y} (h : x.2 ≠ y.2) => fun e => h e.symm)).mpr
      (rowsFrom_pairwise_ne T none)
  refine (hle.and hne).imp ?_
  rintro a b ⟨h1, h2⟩
  simp only [decide_eq_true_eq] at h1
  exact (List.le_iff_lt_or_eq.mp h1).resolve_right h2

theorem built_buildIndex {T : List Sym} {L : List Row} (samplesuff : Nat) : Built T L (buildIndex T L samplesuff) := by
  refine ⟨rfl, ?_, ?_⟩
  · intro c hc
    simp only [buildIndex, List.getElem?_map, List.getElem?_range hc, Option.map_some, List.contains_eq_mem]
  · intro c hc hmem
    simp only [buildIndex] at hmem ⊢
    have hle : c ≤ (L.map Row.bwt).foldl max 0 := ListIdx.le_foldl_max (fun x => x) (L.map Row.bwt) 0 c hmem
    have h1 : c < (L.map Row.bwt).foldl max 0 + 2 := Nat.lt_of_le_of_lt hle (Nat.lt_add_of_pos_right (by decide))
    have h2 : c + 1 < (L.map Row.bwt).foldl max 0 + 2 := Nat.add_lt_add_right (Nat.lt_succ_of_le hle) 1
    simp only [List.getElem?_map, List.getElem?_range h1, List.getElem?_range h2, Option.map_some, hc,
      ↓reduceIte, Nat.add_one_ne_zero, and_self]

/-- What `build_bwt` / `build_ssa` guarantee about the sampling structures. -/
structure BuiltS (T : List Sym) (L : List Row) (ix : Index) : Prop where
  step_pos : 0 < ix.samplesuff
  sampled : ix.sampled = L.map (fun r => r.pos T.length % ix.samplesuff == 0)
  samples : ix.suffSample =
    (L.filter fun r => r.pos T.length % ix.samplesuff == 0).map fun r => sepRank T (r.pos T.length)

theorem builtS_buildIndex (T : List Sym) (L : List Row) (samplesuff : Nat) (h : 0 < samplesuff) :
    BuiltS T L (buildIndex T L samplesuff) :=
  ⟨h, if_neg (Nat.ne_of_gt h), if_neg (Nat.ne_of_gt h)⟩

/-- `bsearch_spec` on the model's own build. Not used by others: C05 states the hypotheses apart. -/
theorem bsearch_buildIndex (T : List Sym) (samplesuff : Nat) (pat : List Sym) (hne : pat ≠ [])
    (hall : ∀ c ∈ pat, c ≠ 0 ∧ c < 256) :
    ∃ res, bsearch (buildIndex T (sortRows T) samplesuff) pat = some res ∧ BSpec (sortRows T) pat res :=
  bsearch_spec (isSA_sortRows T) (built_buildIndex samplesuff) pat hne hall

end CSD.FM
