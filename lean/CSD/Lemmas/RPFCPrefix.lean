import CSD.Lemmas.RPFCStores
import CSD.Lemmas.PFCLocatePrefix

/-! `StringDictionaryRPFC::locatePrefix` on an object that stores `S` is `locatePrefix` of the plain dictionary built
from `S` with the same bucket size, hence exact: the boundary searches read the same plain headers, and in a bucket
every `decodeString` yields what the plain decoder yields (`At`, `step_sim`). -/
namespace CSD.RPFC
open CSD.PFC

/-- The pointer of the plain dictionary and the stream of the compressed one are at the same string. -/
structure At (d : D) (decoded : Str) (L : List Str) (ptr : List UInt8) (st : List Nat) : Prop where
  ptr : ∃ rest, ptr = encTail decoded L ++ rest
  stores : StoresTail d.g d.maxchar decoded L st
  chain : ChainOK d.maxchar decoded L
  nf : ∀ s ∈ L, nulFree s

section
variable {S : List Str} {d : D}

/-- `bucket_hd` and `PFC.bucket_facts` side by side. In order: compressed header, stream; plain header with its
pointer; `At` the rest `L`; the two `scanneableOf`. -/
theorem bucket_at (hst : Stores S d) (hS : ∀ s ∈ S, nulFree s) (k : Nat) (h1 : 1 ≤ k) (h2 : k ≤ d.buckets) :
    ∃ L ptr st, header d k = some (hd d.bucketsize S k) ∧ stream d k = some st ∧
      hdrOf (build d.bucketsize S) k = some (hd d.bucketsize S k, ptr) ∧ At d (hd d.bucketsize S k) L ptr st ∧
      scanneableOf d k = L.length + 1 ∧ PFC.scanneableOf (build d.bucketsize S) k = L.length + 1 := by
  obtain ⟨L, st, hchunk, hhdr, hstr, hstores, hchain, hsc⟩ := bucket_hd hst h1 h2
  obtain ⟨L', rest, hchunk', hh, _, _, hLn, hsc'⟩ :=
    bucket_facts d.bucketsize S hS k h1 (buckets_eq_build hst ▸ h2)
  rw [clamp_of_ge2 hst.b2, hchunk] at hchunk'
  obtain rfl := (List.cons.inj hchunk').2
  exact ⟨L, _, st, hhdr, hstr, hh, ⟨⟨rest, rfl⟩, hstores, hchain, hLn⟩, hsc.trans (Nat.add_comm 1 _),
    hsc'.trans (Nat.add_comm 1 _)⟩

theorem bbFirst_sim (hst : Stores S d) (hS : ∀ s ∈ S, nulFree s) (p : Str) (fuel left right center : Nat) (cmp : Int)
    (h1 : 1 ≤ left) (h2 : right ≤ d.buckets) :
    bbFirst d p fuel left right center cmp = PFC.bbFirst (build d.bucketsize S) p fuel left right center cmp := by
  induction fuel generalizing left right center cmp with
  | zero => rfl
  | succ fuel ih =>
    unfold bbFirst PFC.bbFirst
    by_cases h : left ≤ right
    · have hm := Search.mid_bounds h
      have hc2 := Nat.le_trans hm.2 h2
      obtain ⟨_, ptr, _, hhdr, _, hhdrP, _⟩ := bucket_at hst hS ((left + right) / 2) (Nat.le_trans h1 hm.1) hc2
      simp only [if_pos h, hhdr, hhdrP]
      rw [ih left _ _ _ h1 (Nat.le_trans (Nat.sub_le _ _) hc2), ih _ right _ _ (Nat.le_add_left 1 _) h2]
      rfl
    · rw [if_neg h, if_neg h]

theorem bbLeft_sim (hst : Stores S d) (hS : ∀ s ∈ S, nulFree s) (p : Str) (fuel ll lr : Nat) (h1 : 1 ≤ ll)
    (h2 : lr ≤ d.buckets) : bbLeft d p fuel ll lr = PFC.bbLeft (build d.bucketsize S) p fuel ll lr := by
  induction fuel generalizing ll lr with
  | zero => rfl
  | succ fuel ih =>
    unfold bbLeft PFC.bbLeft
    by_cases h : ll ≤ lr
    · have hm := Search.mid_bounds h
      have hc2 := Nat.le_trans hm.2 h2
      obtain ⟨_, ptr, _, hhdr, _, hhdrP, _⟩ := bucket_at hst hS ((ll + lr) / 2) (Nat.le_trans h1 hm.1) hc2
      simp only [if_pos h, hhdr, hhdrP]
      rw [ih ll _ h1 (Nat.le_trans (Nat.sub_le _ _) hc2), ih _ lr (Nat.le_add_left 1 _) h2]
      rfl
    · rw [if_neg h, if_neg h]

theorem bbRight_sim (hst : Stores S d) (hS : ∀ s ∈ S, nulFree s) (p : Str) (fuel rl rr : Nat) (h1 : 1 ≤ rl)
    (h2 : rr ≤ d.buckets + 1) : bbRight d p fuel rl rr = PFC.bbRight (build d.bucketsize S) p fuel rl rr := by
  induction fuel generalizing rl rr with
  | zero => rfl
  | succ fuel ih =>
    unfold bbRight PFC.bbRight
    by_cases h : rl < rr - 1
    · have hm := Search.mid_strict h
      have hc1 := Nat.le_trans h1 (Nat.le_of_lt hm.1)
      obtain ⟨_, ptr, _, hhdr, _, hhdrP, _⟩ := bucket_at hst hS ((rl + rr) / 2) hc1
        (Nat.le_of_lt_succ (Nat.lt_of_lt_of_le hm.2 h2))
      simp only [if_pos h, hhdr, hhdrP]
      rw [ih _ rr hc1 h2, ih rl _ h1 (Nat.le_trans (Nat.le_of_lt hm.2) h2)]
      rfl
    · rw [if_neg h, if_neg h]

/-- The header reads agree only on `1 … buckets` (`header d 0 = none`, the plain pointer 0 is the start of the text);
`PFC.bbFirst_build` says that the first search hands such an interval to the other two. -/
theorem boundaryBuckets_sim (hst : Stores S d) (hne : S ≠ []) (hS : ∀ s ∈ S, nulFree s) (hsort : SortedLt S) (p : Str) :
    boundaryBuckets d p = PFC.boundaryBuckets (build d.bucketsize S) p := by
  have hbe := buckets_eq_build hst
  have hnb : 1 ≤ (build d.bucketsize S).buckets := (idx_lt_iff d.bucketsize S (Nat.le_refl 1)).mp
    (by simpa using List.length_pos_iff.mpr hne)
  obtain ⟨res, hfirst, hgood, hcm⟩ := bbFirst_build d.bucketsize S p hS hsort hnb
  unfold boundaryBuckets PFC.boundaryBuckets
  rw [← hbe] at hfirst hgood ⊢
  rw [bbFirst_sim hst hS p _ _ _ _ _ (Nat.le_refl 1) (Nat.le_refl _), hfirst]
  cases res with
  | found l r c =>
    obtain ⟨b, hlc, hcr, -⟩ := hgood
    have hcn := Nat.le_trans hcr b.le_n
    dsimp only [bbRes]
    rw [bbLeft_sim hst hS p _ l (c - 1) b.one_le (Nat.le_trans (Nat.sub_le _ _) hcn),
      bbRight_sim hst hS p _ c (r + 1) (Nat.le_trans b.one_le hlc) (Nat.succ_le_succ b.le_n)]
    rfl
  | notFound l r c cm => exact (if_pos hcm).trans (if_pos hcm).symm

theorem step_sim {decoded c : Str} {L : List Str} {ptr : List UInt8} {st : List Nat}
    (h : At d decoded (c :: L) ptr st) :
    ∃ used rest' st', VByte.decode ptr = some (lcp decoded c, used) ∧
      readCStr (ptr.drop used) = some (c.drop (lcp decoded c), rest') ∧
      decodeString d decoded st = some (lcp decoded c, c, st') ∧ At d c L rest' st' := by
  obtain ⟨⟨rest, rfl⟩, hstores, hchain, hnf⟩ := h
  obtain ⟨τ, hdec, htail, hok'⟩ := decodeString_storesTail d hstores hchain
  obtain ⟨used, hv, hr⟩ := decode_encTail_cons decoded (hnf c List.mem_cons_self) L rest
  exact ⟨used, _, τ, hv, hr, hdec, ⟨rest, rfl⟩, htail, hok', fun s hs => hnf s (List.mem_cons_of_mem _ hs)⟩

/-- Both loops fail together, or return the same in-bucket ID; if it is not 0 they hold the same decoded string and
stand `At` the same rest of the bucket. -/
theorem searchPrefixLoop_sim (q : Str) (fuel : Nat) (L : List Str) (decoded : Str) (id sc : Nat) (ptr : List UInt8)
    (st : List Nat) (sh : Nat) (hat : At d decoded L ptr st) (hsc : sc = id + L.length) :
    (searchPrefixLoop d q fuel id sc st decoded sh = none ∧ PFC.searchPrefixLoop q fuel id sc ptr decoded sh = none) ∨
    (∃ idr st' dec' ptr' dec'', searchPrefixLoop d q fuel id sc st decoded sh = some (idr, st', dec') ∧
        PFC.searchPrefixLoop q fuel id sc ptr decoded sh = some (idr, ptr', dec'') ∧
        (idr ≠ 0 → dec' = dec'' ∧ ∃ L'', At d dec' L'' ptr' st' ∧ sc = idr + L''.length)) := by
  induction fuel generalizing L decoded id ptr st sh with
  | zero => exact Or.inl ⟨rfl, rfl⟩
  | succ fuel ih =>
    rw [searchPrefixLoop, PFC.searchPrefixLoop]
    cases lcpLoop (decoded.drop sh) ((q ++ [0]).drop sh) sh with
    | none => exact Or.inl ⟨rfl, rfl⟩
    | some cs =>
      obtain ⟨cmp, shared⟩ := cs
      -- the two loops word "this was the last string of the bucket" differently
      have hlast : id + 1 > sc ↔ id = sc :=
        ⟨fun h => Nat.le_antisymm (hsc ▸ Nat.le_add_right id _) (Nat.le_of_lt_succ h), fun h => h ▸ Nat.lt_succ_self id⟩
      by_cases hfound : shared = q.length
      · simp only [hfound, ↓reduceIte]
        exact Or.inr ⟨id, st, decoded, ptr, decoded, rfl, rfl, fun _ => ⟨rfl, L, hat, hsc⟩⟩
      · by_cases hstop : cmp > 0 ∨ id = sc
        · simp only [hfound, hlast, hstop, ↓reduceIte]
          exact Or.inr ⟨0, st, decoded, ptr, decoded, rfl, rfl, fun h => absurd rfl h⟩
        · cases L with
          | nil => exact absurd (Or.inr hsc.symm) hstop
          | cons c L' =>
            obtain ⟨used, rest', st', hv, hr, hds, hat'⟩ := step_sim hat
            by_cases hlt : lcp decoded c < shared
            · simp only [hfound, hlast, hstop, ↓reduceIte, hv, hds, hlt]
              exact Or.inr ⟨0, _, _, _, _, rfl, rfl, fun h => absurd rfl h⟩
            · simp only [hfound, hlast, hstop, ↓reduceIte, hv, hds, hlt, Nat.not_lt.mpr (lcp_le_left decoded c), hr,
                take_lcp_append_drop]
              exact ih L' c (id + 1) rest' st' shared hat' (by rw [hsc, List.length_cons, Nat.add_right_comm]; rfl)

/-- The plain loop counts to `scanneable` inclusive, the compressed one to `scanneable + 1` exclusive. -/
theorem searchDistinctLoop_sim (plen fuel : Nat) (L : List Str) (decoded : Str) (id sc : Nat) (ptr : List UInt8)
    (st : List Nat) (hat : At d decoded L ptr st) (hsc : sc + 1 = id + L.length) :
    searchDistinctLoop d plen fuel id (sc + 1) st decoded = PFC.searchDistinctLoop plen fuel id sc ptr decoded := by
  induction fuel generalizing L decoded id ptr st with
  | zero => rfl
  | succ fuel ih =>
    unfold searchDistinctLoop PFC.searchDistinctLoop
    simp only [Nat.lt_succ_iff]
    by_cases hi : id ≤ sc
    · cases L with
      | nil => exact absurd hsc (by rw [List.length_nil]; omega)
      | cons c L' =>
        obtain ⟨used, rest', st', hv, hr, hds, hat'⟩ := step_sim hat
        simp only [hi, ↓reduceIte, hv, hds]
        by_cases hlt : lcp decoded c < plen
        · simp only [hlt, ↓reduceIte]
        · simp only [hlt, ↓reduceIte, Nat.not_lt.mpr (lcp_le_left decoded c), hr, take_lcp_append_drop]
          exact ih L' c (id + 1) rest' st' hat' (by rw [hsc, List.length_cons, Nat.add_right_comm]; rfl)
    · simp only [hi, ↓reduceIte]

theorem locatePrefix_sim (hst : Stores S d) (hne : S ≠ []) (hS : ∀ s ∈ S, nulFree s) (hsort : SortedLt S) (q : Str) :
    locatePrefix d q = PFC.locatePrefix (build d.bucketsize S) q := by
  obtain ⟨lb, rb, hbb, hcase⟩ := boundaryBuckets_spec d.bucketsize S q hne hS hsort
  have hbbR : boundaryBuckets d q = some (lb, rb) := (boundaryBuckets_sim hst hne hS hsort q).trans hbb
  have hrange : lb ≤ rb ∧ rb ≤ d.buckets := by
    rw [buckets_eq_build hst]
    rcases hcase with ⟨h1, h2, _⟩ | ⟨F, Lz, hF1, hFL, hLn, hlbF, hrbL, _⟩
    · exact ⟨Nat.le_of_eq h1, h2⟩
    · refine ⟨?_, hrbL ▸ hLn⟩
      rw [hlbF, hrbL]
      split
      · exact Nat.le_trans (Nat.sub_le F 1) hFL
      · exact Nat.le_trans hF1 hFL
  by_cases hl0 : lb = 0
  · simp only [locatePrefix, PFC.locatePrefix, hbbR, hbb, hl0, ↓reduceIte]
  · have hl1 : 1 ≤ lb := Nat.pos_of_ne_zero hl0
    obtain ⟨L, ptr, st, hhdr, hstr, hhdrP, hat, hsc, hscP⟩ := bucket_at hst hS lb hl1 (Nat.le_trans hrange.1 hrange.2)
    rcases searchPrefixLoop_sim (d := d) q (L.length + 1 + 1) L (hd d.bucketsize S lb) 1 (L.length + 1) ptr st 0 hat
        (Nat.add_comm _ _) with ⟨hR, hP⟩ | ⟨idr, st', dec', ptr', dec'', hR, hP, hrel⟩
    · simp only [locatePrefix, PFC.locatePrefix, hbbR, hbb, hl0, ↓reduceIte, hhdr, hstr, hhdrP, hsc, hscP, hR, hP]
    · simp only [locatePrefix, PFC.locatePrefix, hbbR, hbb, hl0, ↓reduceIte, hhdr, hstr, hhdrP, hsc, hscP, hR, hP,
        build_bucketsize, clamp_of_ge2 hst.b2]
      by_cases hlr : lb = rb
      · rw [if_pos hlr, if_pos hlr]
        by_cases hid : idr = 0
        · rw [if_pos hid, if_pos hid]
        · obtain ⟨hde, L'', hat'', hsc''⟩ := hrel hid
          subst hde
          rw [if_neg hid, if_neg hid, searchDistinctLoop_sim (d := d) q.length (L.length + 1 + 1) L'' dec' 1
            (L.length + 1 - idr) ptr' st' hat'' (by rw [hsc'', Nat.add_sub_cancel_left, Nat.add_comm])]
          rfl
      · obtain ⟨L2, ptr2, st2, hhdr2, hstr2, hhdrP2, hat2, hsc2, hscP2⟩ :=
          bucket_at hst hS rb (Nat.le_trans hl1 hrange.1) hrange.2
        rw [if_neg hlr, if_neg hlr, hhdr2, hstr2, hhdrP2]
        simp only [hsc2, hscP2, Nat.add_sub_cancel]
        rw [searchDistinctLoop_sim (d := d) q.length (L2.length + 1 + 1) L2 (hd d.bucketsize S rb) 1 L2.length ptr2 st2
          hat2 (Nat.add_comm _ _)]
        rfl

/-- **`StringDictionaryRPFC::locatePrefix` is exact**: `(0, 0)` when no member starts with the pattern, otherwise the
range of the IDs of those that do. -/
theorem locatePrefix_stores (hst : Stores S d) (hne : S ≠ []) (hS : ∀ s ∈ S, nulFree s) (hsort : SortedLt S)
    (q : Str) (hq : nulFree q) :
    ∃ lo hi, locatePrefix d q = some (lo, hi) ∧ PrefixChar S q lo hi := by
  rw [locatePrefix_sim hst hne hS hsort q]
  exact locatePrefix_build d.bucketsize S q hne hS hsort hq

end
end CSD.RPFC
