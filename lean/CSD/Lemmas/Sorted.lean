import CSD.Lemmas.Order

/-! Strictly sorted lists of byte strings: pairwise (`SortedLt`), adjacent (`sortedStrict`, `chain`); `Spec.locate` and
`Spec.extract` on them; what a valid input gives the proofs. -/
namespace CSD
open CSD.PFC

def SortedLt (S : List Str) : Prop := S.Pairwise (fun a b => scmp a b < 0)

namespace PFC

def chain : Str → List Str → Prop
  | _, [] => True
  | p, c :: L => scmp p c < 0 ∧ chain c L

theorem chain_iff_sortedLt : ∀ {p : Str} {L : List Str}, chain p L ↔ SortedLt (p :: L)
  | _, [] => ⟨fun _ => List.pairwise_singleton _ _, fun _ => trivial⟩
  | p, c :: L => by
    unfold SortedLt
    rw [chain, chain_iff_sortedLt, List.pairwise_cons (a := p)]
    refine ⟨fun ⟨h1, h2⟩ => ⟨fun s hs => ?_, h2⟩, fun ⟨h1, h2⟩ => ⟨h1 c List.mem_cons_self, h2⟩⟩
    rcases List.mem_cons.mp hs with rfl | e
    · exact h1
    · exact scmp_trans_lt h1 ((List.pairwise_cons.mp h2).1 s e)

theorem chain_all_gt {p : Str} {L : List Str} (h : chain p L) : ∀ s ∈ L, scmp p s < 0 :=
  (List.pairwise_cons.mp (chain_iff_sortedLt.mp h)).1

theorem chain_of_sorted (h : Str) (L : List Str) : SortedLt (h :: L) → chain h L := chain_iff_sortedLt.mpr

end PFC

theorem sortedStrict_cons_iff : ∀ (a : Str) (L : List Str), sortedStrict (a :: L) = true ↔ chain a L
  | _, [] => ⟨fun _ => trivial, fun _ => rfl⟩
  | a, b :: t => by rw [sortedStrict, Bool.and_eq_true, sortedStrict_cons_iff b t, chain, slt, decide_eq_true_eq]

theorem sortedLt_of_sortedStrict : ∀ S : List Str, sortedStrict S = true → SortedLt S
  | [], _ => List.Pairwise.nil
  | a :: L, h => chain_iff_sortedLt.mp ((sortedStrict_cons_iff a L).mp h)

theorem SortedLt.getElem_lt {S : List Str} (h : SortedLt S) {i j : Nat} (hi : i < j) (hj : j < S.length) :
    scmp (S[i]'(Nat.lt_trans hi hj)) S[j] < 0 :=
  List.pairwise_iff_getElem.mp h i j (Nat.lt_trans hi hj) hj hi

theorem SortedLt.lt_of_scmp_lt {S : List Str} (h : SortedLt S) {a c : Nat} (ha : a < S.length) (hc : c < S.length)
    (hlt : scmp S[a] S[c] < 0) : a < c := by
  rcases Nat.lt_trichotomy a c with e | e | e
  · exact e
  · subst e; exact absurd hlt (scmp_irrefl_lt _)
  · exact absurd (scmp_trans_lt hlt (h.getElem_lt e ha)) (scmp_irrefl_lt _)

theorem SortedLt.idxOf?_getElem {S : List Str} (h : SortedLt S) (i : Nat) (hi : i < S.length) :
    S.idxOf? S[i] = some i := by
  rw [List.idxOf?_eq_some_iff]
  refine ⟨hi, rfl, ?_⟩
  intro j hj
  exact ne_of_scmp_lt (h.getElem_lt hj hi)

theorem Spec.locate_getElem {S : List Str} (h : SortedLt S) (i : Nat) (hi : i < S.length) :
    Spec.locate S S[i] = i + 1 := by
  simp [Spec.locate, h.idxOf?_getElem i hi]

theorem Spec.locate_not_mem {S : List Str} {q : Str} (h : q ∉ S) : Spec.locate S q = 0 := by
  simp [Spec.locate, List.idxOf?_eq_none_iff.mpr h]

theorem Spec.extract_succ {S : List Str} {i : Nat} (hi : i < S.length) : Spec.extract S (i + 1) = some S[i] :=
  (if_neg (Nat.succ_ne_zero i)).trans (List.getElem?_eq_getElem hi)

theorem Spec.extract_pos {S : List Str} {i : Nat} (h : 1 ≤ i) : Spec.extract S i = S[i - 1]? :=
  if_neg (Nat.ne_of_gt h)

theorem Spec.extract_bad {S : List Str} {i : Nat} (h : i = 0 ∨ i > S.length) : Spec.extract S i = none := by
  rcases Nat.eq_zero_or_pos i with h0 | h0
  · exact if_pos h0
  · rw [Spec.extract_pos h0]
    exact List.getElem?_eq_none (Nat.le_sub_one_of_lt (h.resolve_left (Nat.ne_of_gt h0)))

theorem Spec.mem_of_extract {S : List Str} {i : Nat} {s : Str} (h : Spec.extract S i = some s) : s ∈ S := by
  unfold Spec.extract at h
  split at h
  · cases h
  · exact List.mem_of_getElem? h

theorem Spec.getElem?_locate {S : List Str} {q : Str} (h : 0 < Spec.locate S q) :
    S[Spec.locate S q - 1]? = some q := by
  unfold Spec.locate at h ⊢
  cases hidx : S.idxOf? q with
  | none => rw [hidx] at h; exact absurd h (Nat.lt_irrefl 0)
  | some j =>
    obtain ⟨hj, hje, _⟩ := List.idxOf?_eq_some_iff.mp hidx
    show S[j + 1 - 1]? = some q
    rw [Nat.add_sub_cancel, List.getElem?_eq_getElem hj, hje]

theorem sortedLt_chunk {S : List Str} (hs : SortedLt S) (a b : Nat) : SortedLt ((S.drop a).take b) :=
  List.Pairwise.sublist ((List.take_sublist _ _).trans (List.drop_sublist _ _)) hs

theorem SortedLt.not_mem_take {S : List Str} (h : SortedLt S) {a : Nat} (ha : a < S.length) {q : Str}
    (hq : scmp S[a] q < 0) : q ∉ S.take a := by
  intro hm
  obtain ⟨t, ht, rfl⟩ := List.mem_take_iff_getElem.mp hm
  exact Nat.lt_asymm (Nat.lt_of_lt_of_le ht (Nat.min_le_left _ _)) (h.lt_of_scmp_lt ha _ hq)

theorem SortedLt.not_mem_drop {S : List Str} (h : SortedLt S) {a : Nat} {q : Str}
    (hq : ∀ ha : a < S.length, scmp q S[a] < 0) : q ∉ S.drop a := by
  intro hm
  obtain ⟨t, ht, rfl⟩ := List.mem_drop_iff_getElem.mp hm
  have ha : a < S.length := Nat.lt_of_le_of_lt (Nat.le_add_left a t) ht
  exact Nat.not_lt.mpr (Nat.le_add_right a t) (h.lt_of_scmp_lt _ ha (hq ha))

theorem validStr_of_validDict {S : List Str} (hv : validDict S = true) : ∀ s ∈ S, validStr s = true := by
  simp only [validDict, Bool.and_eq_true, List.all_eq_true] at hv
  exact hv.1.2

theorem validDict_ne {S : List Str} (hv : validDict S = true) : S ≠ [] := by
  simp only [validDict, Bool.and_eq_true, Bool.not_eq_true', List.isEmpty_eq_false_iff] at hv
  exact hv.1.1

theorem validDict_nulFree {S : List Str} (hv : validDict S = true) : ∀ s ∈ S, nulFree s := fun s hs =>
  nulFree_of_validStr (validStr_of_validDict hv s hs)

theorem validDict_validByte {S : List Str} (hv : validDict S = true) : ∀ s ∈ S, s.all validByte = true := fun s hs =>
  (Bool.and_eq_true_iff.mp (validStr_of_validDict hv s hs)).2

theorem validDict_sorted {S : List Str} (hv : validDict S = true) : SortedLt S :=
  sortedLt_of_sortedStrict S (Bool.and_eq_true_iff.mp hv).2

end CSD
