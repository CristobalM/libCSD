import CSD.Model.PFCLoad
import CSD.Lemmas.LogSeq

/-! Little-endian numbers and word arrays read back from the bytes written: rewrite rules whose side conditions are
the bounds the images' `WF` structures state. `LogSequence` on bytes; its vector constructor. -/
namespace CSD.LogSeq

theorem leBytes_length (n k : Nat) : (leBytes n k).length = k := by
  induction k generalizing n with
  | zero => rfl
  | succ k ih => rw [leBytes, List.length_cons, ih]

theorem fromLE_leBytes (k : Nat) : ∀ n, n < 2 ^ (8 * k) → fromLE (leBytes n k) = n := by
  induction k with
  | zero => intro n h; exact (Nat.lt_one_iff.mp h).symm
  | succ k ih =>
    intro n h
    rw [leBytes, fromLE, ih _ (Nat.div_lt_of_lt_mul (by rwa [Nat.mul_succ, Nat.pow_add, Nat.mul_comm] at h)),
      UInt8.toNat_ofNat_of_lt' (Nat.mod_lt n (by decide)), Nat.mod_add_div]

theorem take_leBytes (n k : Nat) (rest : List UInt8) : (leBytes n k ++ rest).take k = leBytes n k :=
  List.take_left' (leBytes_length n k)

theorem drop_leBytes (n k : Nat) (rest : List UInt8) : (leBytes n k ++ rest).drop k = rest :=
  List.drop_left' (leBytes_length n k)

theorem readLE_leBytes (k : Nat) {n : Nat} (h : n < 2 ^ (8 * k)) (rest : List UInt8) :
    readLE k (leBytes n k ++ rest) = some (n, rest) := by
  rw [readLE, if_neg (by rw [List.length_append, leBytes_length]; exact Nat.not_lt.mpr (Nat.le_add_right k _)),
    take_leBytes, drop_leBytes, fromLE_leBytes k n h]

theorem wordsOf_flatMap (data : List Word) (rest : List UInt8) :
    wordsOf data.length (data.flatMap (fun w => leBytes w.toNat 8) ++ rest) = data := by
  induction data with
  | nil => rfl
  | cons w data ih =>
    rw [List.length_cons, wordsOf, List.flatMap_cons, List.append_assoc, take_leBytes, drop_leBytes, ih,
      fromLE_leBytes 8 _ w.isLt, BitVec.ofNat_toNat, BitVec.setWidth_eq]

theorem flatMap_le8_length (data : List Word) :
    (data.flatMap (fun w => leBytes w.toNat 8)).length = 8 * data.length :=
  ListIdx.length_flatMap_const (fun w : Word => leBytes_length w.toNat 8) data

theorem numBytesPadded_eq (w n : Nat) : numBytesPadded w n = 8 * numWords w n := by
  unfold numBytesPadded numWords
  generalize w * n = x
  -- in bytes `nb = 8 q + r` the claim only concerns the remainder, and holds for each of the eight
  have key : ∀ r < 8, (if r ≠ 0 then r + (8 - r) else r) = 8 * ((r + 7) / 8) := by decide
  have hw : (x + 63) / 64 = ((x + 7) / 8 + 7) / 8 := by
    rw [← Nat.add_mul_div_right _ 7 (by decide : 0 < 8), Nat.div_div_eq_div_mul]
  rw [hw]
  generalize (x + 7) / 8 = nb
  obtain ⟨q, r, hr, rfl⟩ := ListIdx.exists_div_mod 8 (by decide) nb
  simp only [Nat.mul_add_mod, Nat.mod_eq_of_lt hr, Nat.add_assoc, Nat.mul_add_div (by decide : 8 > 0), Nat.mul_add,
    ← key r hr]
  split <;> rfl

/-- **`load ∘ save = id`** for a LogSequence whose word array has the allocated size. -/
theorem load_save (s : T) (hb : s.numbits < 256) (hn : s.numentries < 2 ^ 64)
    (hd : s.data.length = numWords s.numbits s.numentries) (rest : List UInt8) :
    load (s.save ++ rest) = some (s, rest) := by
  have hl : (s.data.flatMap fun w => leBytes w.toNat 8).length = numBytesPadded s.numbits s.numentries := by
    rw [flatMap_le8_length, numBytesPadded_eq, hd]
  rw [T.save, List.take_of_length_le (Nat.le_of_eq hl), List.append_assoc, List.cons_append, load,
    readLE_leBytes 8 hn]
  simp only
  rw [UInt8.toNat_ofNat_of_lt' hb, ← hl, if_neg (by rw [List.length_append]; exact Nat.not_lt.mpr (Nat.le_add_right _ _)),
    List.drop_left, flatMap_le8_length, Nat.mul_div_cancel_left _ (by decide : 0 < 8), wordsOf_flatMap]

theorem ofNat_high_bits (w v : Nat) (hv : v ≤ maxVal w) : ∀ t, w ≤ t → (BitVec.ofNat 64 v).getLsbD t = false := by
  intro t ht
  have hlt : v < 2 ^ t :=
    Nat.lt_of_lt_of_le (Nat.lt_of_le_pred (Nat.two_pow_pos w) hv) (Nat.pow_le_pow_right (by decide) ht)
  rw [BitVec.getLsbD_ofNat, Nat.testBit_lt_two_pow hlt, Bool.and_false]

/-- State of the constructor loop after `i` values. -/
structure Filled (vs : List Nat) (w : Nat) (s : T) (i : Nat) : Prop where
  nb : s.numbits = w
  ne : s.numentries = vs.length
  len : s.data.length = numWords w vs.length
  got : ∀ j (hj : j < vs.length), j < i → s.get j = some (BitVec.ofNat 64 vs[j])

theorem Filled.step {vs : List Nat} {w : Nat} {s : T} {i : Nat} (f : Filled vs w s i) (hw1 : 1 ≤ w) (hw : w ≤ 64)
    (hi : i < vs.length) (hvm : vs[i] ≤ maxVal w) : ∃ s', s.set i vs[i] = some s' ∧ Filled vs w s' (i + 1) := by
  have hb (j : Nat) (hj : j < vs.length) : j * w + w ≤ 64 * s.data.length := f.len ▸ numWords_enough w vs.length j hj
  have hhi := ofNat_high_bits w vs[i] hvm
  obtain ⟨d', hs, hlen, _⟩ := setField_spec s.data w i (BitVec.ofNat 64 vs[i]) hw1 hw (hb i hi) hhi
  refine ⟨{ s with data := d' }, ?_, f.nb, f.ne, hlen.trans f.len, fun j hj hji => ?_⟩
  · rw [T.set, f.ne, f.nb, if_neg (Nat.not_lt.mpr (Nat.le_of_lt hi)), if_neg (Nat.not_lt.mpr hvm), hs]
  · have old := f.got j hj
    rw [T.get, f.ne, f.nb, if_neg (Nat.not_lt.mpr (Nat.le_of_lt hj))] at old ⊢
    by_cases e : j = i
    · subst e; exact get_set_same s.data d' w j _ hw1 hw (hb j hj) hhi hs
    · rw [get_set_other s.data d' w i j _ hw1 hw (hb i hi) (hb j hj) hhi (Ne.symm e) hs]
      exact old (Nat.lt_of_le_of_ne (Nat.le_of_lt_succ hji) e)

theorem ofList_go_spec (vs : List Nat) (w : Nat) (hw1 : 1 ≤ w) (hw : w ≤ 64) (hv : ∀ v ∈ vs, v ≤ maxVal w) :
    ∀ (k i : Nat) (s : T), i + k = vs.length → Filled vs w s i →
      ∃ s', ofList.go s i (vs.drop i) = some s' ∧ Filled vs w s' vs.length
  | 0, i, s, h, f => by
    obtain rfl : i = vs.length := h
    exact ⟨s, by rw [List.drop_length]; rfl, f⟩
  | k + 1, i, s, h, f => by
    have hi : i < vs.length := h ▸ Nat.lt_add_of_pos_right (Nat.succ_pos k)
    obtain ⟨s', hset, f'⟩ := f.step hw1 hw hi (hv _ (List.getElem_mem hi))
    rw [List.drop_eq_getElem_cons hi, ofList.go, hset]
    exact ofList_go_spec vs w hw1 hw hv k (i + 1) s' (by rw [← h, Nat.add_assoc, Nat.add_comm 1 k]) f'

/-- **`LogSequence(vector, w)` holds the vector**: it succeeds when every value fits in `w` bits, and
every field reads back its value. -/
theorem ofList_spec (vs : List Nat) (w : Nat) (hw1 : 1 ≤ w) (hw : w ≤ 64) (hv : ∀ v ∈ vs, v ≤ maxVal w) :
    ∃ s, ofList vs w = some s ∧ Filled vs w s vs.length := by
  unfold ofList
  exact ofList_go_spec vs w hw1 hw hv vs.length 0 (mk w vs.length) (Nat.zero_add _)
    ⟨rfl, rfl, List.length_replicate, fun j _ h => absurd h (Nat.not_lt_zero j)⟩

end CSD.LogSeq
