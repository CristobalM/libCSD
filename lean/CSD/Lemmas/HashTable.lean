import CSD.Lemmas.HashProbe

/-! Insertion into the open-addressing table: `insert` takes the first free probe, and the invariant `Good` holds of
the table all along the fold `insertAll`. -/
namespace CSD.Hash

def occ (t : Table) : Nat := (t.filter Option.isSome).length

theorem occ_set_none (t : Table) (s : Nat) (k : Nat) (hs : t[s]? = some none) :
    occ (t.set s (some k)) = occ t + 1 := by
  obtain ⟨h, e⟩ := List.getElem?_eq_some_iff.mp hs
  unfold occ
  rw [← List.countP_eq_length_filter, ← List.countP_eq_length_filter, List.countP_set h, e]
  rfl

theorem exists_free (t : Table) (h : occ t < t.length) : ∃ s : Nat, t[s]? = some none := by
  apply Classical.byContradiction
  intro hn
  -- otherwise every cell passes the filter of `occ`
  refine Nat.ne_of_lt h (List.length_filter_eq_length_iff.mpr fun a ha => ?_)
  cases a with
  | none => exact absurd (List.mem_iff_getElem?.mp ha) hn
  | some k => rfl

theorem insertSlot_eq (t : Table) (w : Str) :
    insertSlot t w = (List.range t.length).findSome? fun i =>
      if t.getD (pr t.length w i) none = none then some (pr t.length w i) else none := rfl

theorem getD_eq_none {t : Table} {s : Nat} (hs : s < t.length) (h : t.getD s none = none) : t[s]? = some none := by
  rw [List.getD_eq_getElem?_getD, List.getElem?_eq_getElem hs] at h
  rw [List.getElem?_eq_getElem hs]
  exact congrArg some h

theorem getD_eq_some {t : Table} {s k : Nat} (h : t.getD s none = some k) : t[s]? = some (some k) := by
  rw [List.getD_eq_getElem?_getD] at h
  cases hc : t[s]? with
  | none => rw [hc] at h; cases h
  | some v => rw [hc] at h; exact congrArg some h

/-- **Insertion finds a free cell** whenever the table is not full, the first on the probe sequence: the sequence
covers every cell. -/
theorem insertSlot_spec {m : Nat} (hp : ProbeOK m) (t : Table) (hlen : t.length = m) (w : Str)
    (hfree : occ t < m) :
    ∃ i, i < m ∧ insertSlot t w = some (pr m w i) ∧ t[pr m w i]? = some none ∧
      ∀ j, j < i → ∃ k, t[pr m w j]? = some (some k) := by
  subst hlen
  let f : Nat → Option Nat := fun i => if t.getD (pr t.length w i) none = none then some (pr t.length w i) else none
  have hf : ∀ j, (f j = some (pr t.length w j) ∧ t[pr t.length w j]? = some none) ∨
      (f j = none ∧ ∃ k, t[pr t.length w j]? = some (some k)) := by
    intro j
    cases hc : t.getD (pr t.length w j) none with
    | none => exact .inl ⟨if_pos hc, getD_eq_none (pr_lt _ hp.1 w j) hc⟩
    | some k => exact .inr ⟨if_neg (hc ▸ Option.some_ne_none k), k, getD_eq_some hc⟩
  cases hfs : (List.range t.length).findSome? f with
  | none =>
    -- some probe stands on a free cell, and the loop would have returned it
    obtain ⟨s, hs⟩ := exists_free t hfree
    obtain ⟨i0, hi0, rfl⟩ := hp.cover w s (List.getElem?_eq_some_iff.mp hs).1
    rcases hf i0 with ⟨h, _⟩ | ⟨_, k, hk⟩
    · cases (range_findSome?_none f _ hfs i0 hi0).symm.trans h
    · cases hs.symm.trans hk
  | some c =>
    obtain ⟨i, hi, hfi, hin⟩ := findSome?_range_some f c _ hfs
    rcases hf i with ⟨hfi', hcell⟩ | ⟨hfi', _⟩
    · refine ⟨i, hi, (insertSlot_eq t w).trans (hfs.trans (hfi.symm.trans hfi')), hcell, fun j hj => ?_⟩
      rcases hf j with ⟨h, _⟩ | ⟨_, hk⟩
      · cases (hin j hj).symm.trans h
      · exact hk
    · cases hfi.symm.trans hfi'

theorem set_free_iff {t : Table} {c : Nat} (hc : t[c]? = some none) (k0 s k : Nat) :
    (t.set c (some k0))[s]? = some (some k) ↔ (s = c ∧ k = k0) ∨ t[s]? = some (some k) := by
  by_cases h : c = s
  · subst h
    rw [List.getElem?_set_self (List.getElem?_eq_some_iff.mp hc).1, hc]
    exact ⟨fun e => .inl ⟨rfl, (Option.some.inj (Option.some.inj e)).symm⟩,
      fun e => e.elim (fun e => by rw [e.2]) (fun e => by cases e)⟩
  · rw [List.getElem?_set_ne h]
    exact ⟨.inr, fun e => e.elim (fun e => absurd e.1.symm h) id⟩

def insStep : Table × List (Option Nat) → Str × Nat → Table × List (Option Nat)
  | acc, (w, i) =>
    match insertSlot acc.1 w with
    | some s => (acc.1.set s (some i), acc.2 ++ [some s])
    | none => (acc.1, acc.2 ++ [none])

theorem insertAll_eq (m : Nat) (S : List Str) :
    insertAll m S = S.zipIdx.foldl insStep (List.replicate m none, []) := rfl

/-- After the first `k0` strings of `S` were inserted into a table of size `m`. -/
structure Good (m : Nat) (S : List Str) (t : Table) (k0 : Nat) : Prop where
  len : t.length = m
  /-- every stored index is one of the inserted strings, sits on that string's probe sequence,
  and every earlier probe of that string is occupied -/
  stored : ∀ (s k : Nat), t[s]? = some (some k) → k < k0 ∧ ∃ w, S[k]? = some w ∧ ∃ i, i < m ∧ s = pr m w i ∧
      ∀ j, j < i → ∃ k', t[pr m w j]? = some (some k')
  all : ∀ (k : Nat), k < k0 → ∃ s : Nat, t[s]? = some (some k)
  uniq : ∀ (s s' k : Nat), t[s]? = some (some k) → t[s']? = some (some k) → s = s'
  cnt : occ t = k0

theorem occ_replicate (m : Nat) : occ (List.replicate m none) = 0 := by
  simp [occ]

theorem good_init (m : Nat) (S : List Str) : Good m S (List.replicate m none) 0 := by
  have hno : ∀ s k : Nat, (List.replicate m (none : Option Nat))[s]? ≠ some (some k) := by
    intro s k h
    rw [List.getElem?_replicate] at h
    split at h <;> cases h
  exact ⟨List.length_replicate, fun s k h => absurd h (hno s k), fun k hk => absurd hk (Nat.not_lt_zero k),
    fun s _ k h => absurd h (hno s k), occ_replicate m⟩

theorem good_step {m : Nat} (hp : ProbeOK m) {S : List Str} {t : Table} {k0 : Nat}
    (g : Good m S t k0) (w : Str) (hw : S[k0]? = some w) (hk : k0 < m) :
    ∃ c, insertSlot t w = some c ∧ Good m S (t.set c (some k0)) (k0 + 1) := by
  obtain ⟨i, hi, hins, hfree, hpath⟩ := insertSlot_spec hp t g.len w (g.cnt ▸ hk)
  have hiff := set_free_iff hfree k0
  have hmono : ∀ s, (∃ k, t[s]? = some (some k)) → ∃ k, (t.set (pr m w i) (some k0))[s]? = some (some k) :=
    fun s ⟨k, h⟩ => ⟨k, (hiff s k).mpr (.inr h)⟩
  refine ⟨pr m w i, hins, ?_⟩
  constructor
  · rw [List.length_set, g.len]
  · intro s k h
    rcases (hiff s k).mp h with ⟨rfl, rfl⟩ | h
    · exact ⟨Nat.lt_succ_self _, w, hw, i, hi, rfl, fun j hj => hmono _ (hpath j hj)⟩
    · obtain ⟨hlt, w', hw', i', hi', hs', hp'⟩ := g.stored s k h
      exact ⟨Nat.lt_succ_of_lt hlt, w', hw', i', hi', hs', fun j hj => hmono _ (hp' j hj)⟩
  · intro k hk1
    rcases Nat.lt_or_eq_of_le (Nat.le_of_lt_succ hk1) with hlt | rfl
    · exact (g.all k hlt).imp fun s hs => (hiff s k).mpr (.inr hs)
    · exact ⟨pr m w i, (hiff _ _).mpr (.inl ⟨rfl, rfl⟩)⟩
  · have hnew : ∀ s, t[s]? ≠ some (some k0) := fun s h => Nat.lt_irrefl _ (g.stored s k0 h).1
    intro s s' k h h'
    rcases (hiff s k).mp h with ⟨rfl, rfl⟩ | h <;> rcases (hiff s' k).mp h' with ⟨rfl, e⟩ | h'
    · rfl
    · exact absurd h' (hnew _)
    · exact absurd (e ▸ h) (hnew _)
    · exact g.uniq s s' k h h'
  · rw [occ_set_none t _ _ hfree, g.cnt]

theorem good_fold {m : Nat} (hp : ProbeOK m) (S : List Str) :
    ∀ (L : List Str) (k0 : Nat) (t : Table) (sl : List (Option Nat)),
      S.drop k0 = L → k0 + L.length ≤ m → Good m S t k0 →
      Good m S ((L.zipIdx k0).foldl insStep (t, sl)).1 (k0 + L.length) := by
  intro L
  induction L with
  | nil => intro k0 t sl _ _ g; exact g
  | cons w L ih =>
    intro k0 t sl hd hcap g
    have hw : S[k0]? = some w := by rw [← Nat.add_zero k0, ← List.getElem?_drop, hd]; rfl
    obtain ⟨c, hc, g'⟩ := good_step hp g w hw
      (Nat.lt_of_lt_of_le (Nat.lt_add_of_pos_right (Nat.succ_pos _)) hcap)
    have hstep : insStep (t, sl) (w, k0) = (t.set c (some k0), sl ++ [some c]) := by
      simp only [insStep, hc]
    have e : k0 + (w :: L).length = k0 + 1 + L.length := by rw [List.length_cons, Nat.add_assoc, Nat.add_comm 1]
    rw [List.zipIdx_cons, List.foldl_cons, hstep, e]
    exact ih (k0 + 1) _ _ (by rw [← List.tail_drop, hd]; rfl) (e ▸ hcap) g'

/-- **The table built by `insertAll`** holds every string of `S` (when `S` fits). -/
theorem good_insertAll {m : Nat} (hp : ProbeOK m) (S : List Str) (hcap : S.length ≤ m) :
    Good m S (insertAll m S).1 S.length := by
  have := good_fold hp S S 0 (List.replicate m none) [] rfl (by rw [Nat.zero_add]; exact hcap) (good_init m S)
  rw [Nat.zero_add] at this
  rw [insertAll_eq]
  exact this

end CSD.Hash
