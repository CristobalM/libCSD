import CSD.Lemmas.FMDict
import CSD.Lemmas.FMDedup

/-! `StringDictionaryFMINDEX::locateSubstr` (with BWT sampling).  Each row of the block of the pattern lies inside
a member that contains the pattern and the walk from it returns that member's ID (`block_row_walk`); every
member containing the pattern has such a row (`substr_row`).  Hence the occurrence array holds exactly
`Spec.substrIds`, with repetitions. -/
namespace CSD.FM

theorem isSubstr_iff_infix (p : Str) : ∀ s : Str, isSubstr p s = true ↔ p <:+: s
  | [] => by rw [isSubstr, List.isEmpty_iff, List.infix_nil]
  | c :: t => by
    rw [isSubstr, Bool.or_eq_true, isPrefix_eq_isPrefixOf, List.isPrefixOf_iff_prefix, isSubstr_iff_infix p t,
      List.infix_cons_iff]

theorem mem_substrIds (S : List Str) (p : Str) (id : Nat) :
    id ∈ Spec.substrIds S p ↔ ∃ (i : Nat) (hi : i < S.length), id = i + 1 ∧ isSubstr p S[i] = true := by
  simp only [Nat.add_comm _ 1]
  exact mem_ids_iff (isSubstr p) S 1 id

/-- `getD 0` only names the value: under the hypothesis the default is never taken. -/
theorem walkAll_eq (ix : Index) : ∀ js : List Nat, (∀ j ∈ js, ∃ a, walk ix (ix.bwt.length + 1) j = some a) →
    walkAll ix js = some (js.map fun j => (walk ix (ix.bwt.length + 1) j).getD 0)
  | [], _ => rfl
  | j :: js, h => by
    obtain ⟨a, ha⟩ := h j List.mem_cons_self
    rw [walkAll, walkAll_eq ix js fun k hk => h k (List.mem_cons_of_mem _ hk), List.map_cons, ha]
    rfl

theorem walkAll_length (ix : Index) : ∀ (js ids : List Nat), walkAll ix js = some ids → ids.length = js.length := by
  intro js
  induction js with
  | nil =>
    intro ids h
    cases h
    rfl
  | cons j js ih =>
    intro ids h
    rw [walkAll] at h
    split at h
    · next l _ hl =>
      cases h
      exact congrArg (· + 1) (ih l hl)
    · cases h

theorem substr_row {S : List Str} {L : List Row} {d : Dict} (hv : validDict S = true) (hd : DictOK S L d)
    (hS : BuiltS (mkText S) L d.ix) (p : Str) (hne : p ≠ []) (i : Nat) (hi : i < S.length)
    (hsub : isSubstr p S[i] = true) :
    ∃ j, lo L (symsOf p) ≤ j ∧ j < lo L (symsOf p) + occs L (symsOf p) ∧
      walk d.ix (d.ix.bwt.length + 1) j = some (i + 1) := by
  obtain ⟨u0, w0, hs⟩ := (isSubstr_iff_infix p S[i]).mp hsub
  have huv : symsOf S[i] = symsOf u0 ++ (symsOf p ++ symsOf w0) := by
    rw [← hs]
    simp only [symsOf, List.map_append, List.append_assoc]
  have hvne : symsOf p ++ symsOf w0 ≠ [] := fun h => symsOf_ne_nil hne (List.append_eq_nil_iff.mp h).1
  obtain ⟨p', hrow⟩ := (hd.sa.exists_mem (s := (symsOf p ++ symsOf w0) ++ 1 :: body (S.drop (i + 1)))).mpr
    ⟨textBefore (S.take i) ++ 1 :: symsOf u0, by
      rw [mkText_split S i, body_drop S i hi, huv]; simp only [List.append_assoc, List.cons_append]⟩
  have hb := row_in_block hd.sa (symsOf p) hrow (List.isPrefixOf_iff_prefix.mpr
    ⟨symsOf w0 ++ 1 :: body (S.drop (i + 1)), (List.append_assoc _ _ _).symm⟩)
  exact ⟨_, hb.1, hb.2, walk_member hv hd hS i hi (symsOf u0) (symsOf p ++ symsOf w0) huv hvne⟩

theorem block_row_walk {S : List Str} {L : List Row} {d : Dict} (hv : validDict S = true) (hd : DictOK S L d)
    (hS : BuiltS (mkText S) L d.ix) (p : Str) (hp : p.all validByte = true) (hne : p ≠ [])
    (j : Nat) (h1 : lo L (symsOf p) ≤ j) (h2 : j < lo L (symsOf p) + occs L (symsOf p)) :
    ∃ a, walk d.ix (d.ix.bwt.length + 1) j = some a ∧ a ∈ Spec.substrIds S p := by
  have hp2 := ge2_of_all hp
  have hj : j < L.length := Nat.lt_of_lt_of_le h2 (lo_add_occs_le_length L _)
  have hpre := (preP_getElem_iff hd.sa hj).mpr ⟨h1, h2⟩
  obtain ⟨y0, P', hP⟩ := List.exists_cons_of_ne_nil (symsOf_ne_nil hne)
  have hy0 : 2 ≤ y0 := hp2 y0 (hP ▸ List.mem_cons_self)
  obtain ⟨z, hz⟩ := List.isPrefixOf_iff_prefix.mp hpre
  have ht : L[j].2 = y0 :: (P' ++ z) := by rw [← hz, hP]; rfl
  have hmemL : (L[j].1, y0 :: (P' ++ z)) ∈ L := by rw [← ht]; exact List.getElem_mem hj
  obtain ⟨i, hi, u, v, huv, hvne, hsplit⟩ := row_inside hd.sa hy0 hmemL
  have hidx : lo L (v ++ 1 :: body (S.drop (i + 1))) = j := by
    rw [← hsplit, ← ht]; exact lo_getElem hd.sa.2 hj
  refine ⟨i + 1, ?_, ?_⟩
  · rw [← hidx]; exact walk_member hv hd hS i hi u v huv hvne
  · rw [mem_substrIds]
    refine ⟨i, hi, rfl, ?_⟩
    have hpv : (symsOf p).isPrefixOf v = true := by
      rw [← isPrefixOf_append_sep _ v _ hp2, ← hsplit, ← ht]; exact hpre
    obtain ⟨w', hw'⟩ := List.isPrefixOf_iff_prefix.mp hpv
    exact (isSubstr_iff_infix p S[i]).mpr (infix_symsOf.mp ⟨u, w', by rw [huv, ← hw', List.append_assoc]⟩)

theorem locateOccs_dict {S : List Str} {L : List Row} {d : Dict} (hv : validDict S = true) (hd : DictOK S L d)
    (hS : BuiltS (mkText S) L d.ix) (p : Str) (hp : p.all validByte = true) (hne : p ≠ []) :
    (locateOccs d.ix (symsOf p) = some none ∧ Spec.substrIds S p = []) ∨
    ∃ occs, locateOccs d.ix (symsOf p) = some (some occs) ∧ (∀ x, x ∈ occs ↔ x ∈ Spec.substrIds S p) ∧
      Spec.substrIds S p ≠ [] := by
  rw [locateOccs_eq hd.sa hd.built (Nat.ne_of_gt hS.step_pos) (symsOf p) (symsOf_ne_nil hne)
    fun c hc => symsOf_ok hp (Or.inr hc)]
  by_cases h0 : occs L (symsOf p) = 0
  · rw [if_pos h0]
    refine Or.inl ⟨rfl, List.eq_nil_iff_forall_not_mem.mpr fun id hid => ?_⟩
    obtain ⟨i, hi, _, hsub⟩ := (mem_substrIds S p id).mp hid
    obtain ⟨j, h1, h2, _⟩ := substr_row hv hd hS p hne i hi hsub
    rw [h0] at h2
    exact Nat.not_lt_of_le h1 h2
  · rw [if_neg h0]
    have hw : ∀ j ∈ List.range' (lo L (symsOf p)) (occs L (symsOf p)),
        ∃ a, walk d.ix (d.ix.bwt.length + 1) j = some a ∧ a ∈ Spec.substrIds S p := fun j hj =>
      block_row_walk hv hd hS p hp hne j (List.mem_range'_1.mp hj).1 (List.mem_range'_1.mp hj).2
    -- the first row of the block lies in a member that contains `p`
    obtain ⟨a, _, ha⟩ := hw _ (List.mem_range'_1.mpr ⟨Nat.le_refl _, Nat.lt_add_of_pos_right (Nat.pos_of_ne_zero h0)⟩)
    rw [walkAll_eq d.ix _ fun j hj => (hw j hj).imp fun _ h => h.1]
    refine Or.inr ⟨_, rfl, fun x => ?_, List.ne_nil_of_mem ha⟩
    rw [List.mem_map]
    constructor
    · rintro ⟨j, hj, rfl⟩
      obtain ⟨a, ha, hm⟩ := hw j hj
      rwa [ha]
    · intro hx
      obtain ⟨i, hi, rfl, hsub⟩ := (mem_substrIds S p x).mp hx
      obtain ⟨j, hb1, hb2, hwalk⟩ := substr_row hv hd hS p hne i hi hsub
      exact ⟨j, List.mem_range'_1.mpr ⟨hb1, hb2⟩, by rw [hwalk]; rfl⟩

/-- `StringDictionaryFMINDEX::locateSubstr` on a dictionary built with BWT sampling: the iterator yields
`Spec.substrIds S p` — the members containing `p`, each once — with every read in bounds. -/
theorem locateSubstr_spec {S : List Str} {L : List Row} {d : Dict} (hv : validDict S = true) (hd : DictOK S L d)
    (hS : BuiltS (mkText S) L d.ix) (p : Str) (hp : p.all validByte = true) (hne : p ≠ []) :
    d.locateSubstr p = some (Spec.substrIds S p) := by
  rw [Dict.locateSubstr]
  rcases locateOccs_dict hv hd hS p hp hne with ⟨h1, h2⟩ | ⟨occs, h1, h2, _⟩
  · rw [h1, h2]
  · rw [h1]
    exact congrArg some (dedup_sort_eq occs _ (sorted_ids (isSubstr p) S 1) h2)

end CSD.FM
