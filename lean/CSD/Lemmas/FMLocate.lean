import CSD.Lemmas.FMSearch
import CSD.Lemmas.FMText
import CSD.Lemmas.Sorted

/-! Through `symsOf` a valid dictionary is a list of strings over `2 .. 254` sorted by the suffix array's symbol order,
so the rank of a member and the block of a prefix are row counts of the text layout: `locate` and `locatePrefix`
refine the specification. -/
namespace CSD.FM
open CSD.PFC

/-- Instance search finds this only after failed detours, at every `q ∈ S` on byte strings. -/
private local instance : LawfulBEq UInt8 := instLawfulBEq

theorem symsOf_inj {a b : Str} (h : symsOf a = symsOf b) : a = b :=
  (List.map_inj_right fun _ _ => UInt8.toNat_inj.mp).mp h

theorem symsOf_lt_iff (a : Str) : ∀ b : Str, nulFree b → (symsOf a < symsOf b ↔ scmp a b < 0) := by
  induction a with
  | nil =>
    rintro (_ | ⟨y, b⟩) hb
    · simp [symsOf, scmp]
    · exact iff_of_true (List.nil_lt_cons _ _)
        (Int.neg_neg_of_pos (Int.natCast_pos.mpr (toNat_pos_of_ne_zero (nulFree_cons.mp hb).1)))
  | cons x a ih =>
    rintro (_ | ⟨y, b⟩) hb
    · exact iff_of_false (List.not_lt_nil _) (Int.not_lt.mpr (Int.natCast_nonneg _))
    · show x.toNat :: symsOf a < y.toNat :: symsOf b ↔ _
      rw [List.cons_lt_cons_iff, scmp]
      by_cases hxy : x = y
      · rw [if_pos hxy, hxy, ← ih b (nulFree_cons.mp hb).2]
        exact ⟨fun h => (h.resolve_left (Nat.lt_irrefl _)).2, fun h => Or.inr ⟨rfl, h⟩⟩
      · rw [if_neg hxy]
        constructor
        · rintro (h | ⟨h, _⟩)
          · exact Int.sub_neg_of_lt (Int.ofNat_lt.mpr h)
          · exact absurd h (toNat_ne hxy)
        · exact fun h => Or.inl (Int.ofNat_lt.mp (Int.lt_of_sub_neg h))

theorem isPrefix_symsOf (p s : Str) : (symsOf p).isPrefixOf (symsOf s) = isPrefix p s := by
  rw [isPrefix_eq_isPrefixOf, Bool.eq_iff_iff, List.isPrefixOf_iff_prefix, List.isPrefixOf_iff_prefix]
  exact List.prefix_map_iff_of_injective fun _ _ => UInt8.toNat_inj.mp

theorem infix_symsOf {p s : Str} : symsOf p <:+: symsOf s ↔ p <:+: s := by
  refine ⟨fun h => ?_, fun h => h.map _⟩
  obtain ⟨l, hl, e⟩ := List.infix_map_iff.mp h
  exact symsOf_inj e ▸ hl

theorem ge2_of_all {s : Str} (h : s.all validByte = true) : Ge2 (symsOf s) := by
  intro x hx
  obtain ⟨c, hc, rfl⟩ := List.mem_map.mp hx
  have := List.all_eq_true.mp h c hc
  simp only [validByte, Bool.and_eq_true, decide_eq_true_eq] at this
  exact this.1

theorem lt256_of_symsOf (s : Str) : ∀ x ∈ symsOf s, x < 256 := fun x hx => by
  obtain ⟨c, _, rfl⟩ := List.mem_map.mp hx
  exact c.toNat_lt

theorem symsOf_ok {q : Str} (hq : q.all validByte = true) {c : Sym} (hc : c = 1 ∨ c ∈ symsOf q) :
    c ≠ 0 ∧ c < 256 := by
  rcases hc with rfl | hc
  · decide
  · have := ge2_of_all hq c hc
    obtain ⟨b, _, rfl⟩ := List.mem_map.mp hc
    exact ⟨by omega, b.toNat_lt⟩

theorem validS_of_validDict {S : List Str} (hv : validDict S = true) : ValidS S := fun s hs =>
  ge2_of_all (validDict_validByte hv s hs)

theorem sorted_symsOf {S : List Str} (hv : validDict S = true) : S.Pairwise (fun a b => symsOf a < symsOf b) :=
  List.Pairwise.imp_of_mem (fun {a b} _ hb h => (symsOf_lt_iff a b (validDict_nulFree hv b hb)).mpr h)
    (validDict_sorted hv)

/-- The hypotheses on a dictionary object: index built from a suffix array of the text of `S`. -/
structure DictOK (S : List Str) (L : List Row) (d : Dict) : Prop where
  sa : IsSA (mkText S) L
  built : Built (mkText S) L d.ix
  elements : d.elements = S.length

section
variable {S : List Str} {L : List Row} (hv : validDict S = true) (hSA : IsSA (mkText S) L)
include hv hSA

theorem lo_pat_getElem {i : Nat} (hi : i < S.length) : lo L (patOf S[i]) = 3 + i := by
  have hVS := validS_of_validDict hv
  rw [lo_pat hSA hVS (hVS _ (List.getElem_mem hi))]
  exact congrArg (3 + ·) (sorted_countP_lt (key := symsOf) (sorted_symsOf hv) hi)

theorem occs_pat_eq {q : Str} (hq : Ge2 (symsOf q)) : occs L (patOf q) = if q ∈ S then 1 else 0 := by
  rw [occs_pat hSA (validS_of_validDict hv) hq, ← (nodup_of_sorted_key (sorted_symsOf hv)).count, List.count_eq_countP]
  exact List.countP_congr fun s _ => by
    simp only [decide_eq_true_eq, beq_iff_eq]
    exact ⟨symsOf_inj, congrArg symsOf⟩

theorem occs_pat_getElem {i : Nat} (hi : i < S.length) : occs L (patOf S[i]) = 1 := by
  rw [occs_pat_eq hv hSA (validS_of_validDict hv _ (List.getElem_mem hi)), if_pos (List.getElem_mem hi)]

end

/-- `StringDictionaryFMINDEX::locate` on a dictionary built from a valid `S`: the rank of a member,
0 for any other string over `0x02 .. 0xFE`; no read outside the index structures. -/
theorem locate_spec {S : List Str} {L : List Row} {d : Dict} (hv : validDict S = true) (hd : DictOK S L d)
    (q : Str) (hq : q.all validByte = true) : d.locate q = some (Spec.locate S q) := by
  have hid := locateId_eq hd.sa hd.built (patOf q) (List.cons_ne_nil _ _) fun c hc =>
    symsOf_ok hq (by simpa [patOf, or_comm, or_assoc] using hc)
  rw [occs_pat_eq hv hd.sa (ge2_of_all hq)] at hid
  rw [Dict.locate, show (1 :: symsOf q ++ [1] : List Sym) = patOf q from rfl, hid]
  by_cases hmem : q ∈ S
  · obtain ⟨i, hi, rfl⟩ := List.getElem_of_mem hmem
    rw [if_pos hmem, if_neg Nat.one_ne_zero, lo_pat_getElem hv hd.sa hi,
      Spec.locate_getElem (validDict_sorted hv) i hi, Nat.add_comm 3 i]
    rfl
  · rw [if_neg hmem, if_pos rfl, Spec.locate_not_mem hmem]
    rfl

theorem prefixIds_eq_range {S : List Str} (hv : validDict S = true) (p : Str) :
    Spec.prefixIds S p = List.range' (1 + S.countP (fun s => decide (symsOf s < symsOf p)))
      (S.countP (fun s => (symsOf p).isPrefixOf (symsOf s))) := by
  refine Eq.trans ?_ (ids_preP_eq_range symsOf (symsOf p) S 1 (sorted_symsOf hv))
  rw [Spec.prefixIds]
  congr 1
  funext x
  rw [preP, isPrefix_symsOf]

/-- `SSA::locateP` on `\1 p`, with `a` members below `p` and `n` starting with it: `(n, a + 1, a + n)`, the count and
the first and last ID. -/
theorem locateP_prePat {S : List Str} {L : List Row} {d : Dict} (hv : validDict S = true) (hd : DictOK S L d)
    (p : Str) (hp : p.all validByte = true) (hne : p ≠ []) :
    locateP d.ix (prePat p) =
      some (if S.countP (fun s => (symsOf p).isPrefixOf (symsOf s)) = 0 then (0, 0, 0)
        else (S.countP (fun s => (symsOf p).isPrefixOf (symsOf s)),
          S.countP (fun s => decide (symsOf s < symsOf p)) + 1,
          S.countP (fun s => decide (symsOf s < symsOf p)) + S.countP (fun s => (symsOf p).isPrefixOf (symsOf s)))) := by
  have hVS := validS_of_validDict hv
  -- `lo = 3 + below = (below + 1) + 2`
  rw [locateP_eq hd.sa hd.built (prePat p) (List.cons_ne_nil _ _) (fun c hc => symsOf_ok hp (List.mem_cons.mp hc))
      ((lo_prePat hd.sa hVS (ge2_of_all hp) hne).trans (Nat.add_comm 3 _)),
    occs_prePat hd.sa hVS (ge2_of_all hp) hne, Nat.add_right_comm, Nat.add_sub_cancel]

/-- `StringDictionaryFMINDEX::locatePrefix`: the limits `(l, r)` of the contiguous iterator satisfy
`Spec.prefixIds S p = [l, …, r]`; `(0, 0)`, the empty iterator, when no member starts with `p`. -/
theorem locatePrefix_spec {S : List Str} {L : List Row} {d : Dict} (hv : validDict S = true) (hd : DictOK S L d)
    (p : Str) (hp : p.all validByte = true) (hne : p ≠ []) :
    ∃ l r, d.locatePrefix p = some (l, r) ∧
      ((Spec.prefixIds S p = [] ∧ l = 0 ∧ r = 0) ∨
       (Spec.prefixIds S p ≠ [] ∧ Spec.prefixIds S p = List.range' l (r + 1 - l) ∧ 1 ≤ l ∧ l ≤ r)) := by
  rw [Dict.locatePrefix, show (1 :: symsOf p : List Sym) = prePat p from rfl, locateP_prePat hv hd p hp hne,
    prefixIds_eq_range hv, Nat.add_comm 1]
  generalize S.countP (fun s => decide (symsOf s < symsOf p)) = a
  generalize S.countP (fun s => (symsOf p).isPrefixOf (symsOf s)) = n
  cases n with
  | zero => exact ⟨0, 0, rfl, Or.inl ⟨rfl, rfl, rfl⟩⟩
  | succ n =>
    refine ⟨a + 1, a + (n + 1), rfl, Or.inr ⟨List.cons_ne_nil _ _, ?_, Nat.le_add_left 1 a,
      Nat.add_le_add_left (Nat.le_add_left 1 n) a⟩⟩
    rw [Nat.add_right_comm, Nat.add_sub_cancel_left]

end CSD.FM
