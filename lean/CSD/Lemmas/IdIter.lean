import CSD.Model.IdIter
import CSD.Lemmas.FMDedup
import CSD.Lemmas.ListIdx

/-! The two ID iterators: `IteratorDictIDContiguous` counts through an ID range, `IteratorDictIDDuplicates` runs
over the sorted occurrence array and its sentinel.  `contig_drain` and `drain_all` give one unit of fuel more than
there are values: the equation then also says that `hasNext` is false behind the last value (exactly as many
units give the same list). -/
namespace CSD.IdIter

theorem drain_range {s : Nat} (hs : s < W64) : ∀ (k p fuel : Nat), s = p + k → k ≤ fuel →
    Contig.drain fuel { processed := p, scanneable := s } = List.range' (p + 1) k
  | 0, p, fuel, h, _ => by
    cases fuel with
    | zero => rfl
    | succ f =>
      rw [Contig.drain, Contig.hasNext, decide_eq_false (Nat.not_lt_of_le (Nat.le_of_eq h) : ¬p < s)]
      rfl
  | k + 1, p, 0, _, hf => absurd hf (Nat.not_succ_le_zero k)
  | k + 1, p, fuel + 1, h, hf => by
    have hp : p < s := h ▸ Nat.lt_add_of_pos_right (Nat.succ_pos k)
    have ih := drain_range hs k (p + 1) fuel (h.trans (Nat.succ_add_eq_add_succ p k).symm)
      (Nat.le_of_succ_le_succ hf)
    rw [Contig.drain, Contig.hasNext, decide_eq_true hp]
    simp only [↓reduceIte, Contig.next, Nat.mod_eq_of_lt (Nat.lt_of_le_of_lt hp hs), ih, List.range'_succ]

theorem contig_drain (left right : Nat) (h1 : 1 ≤ left) (h2 : left ≤ right) (h3 : right < W64) :
    Contig.drain (right - left + 2) (Contig.mk' left right) = (List.range (right - left + 1)).map (· + left) := by
  obtain ⟨p, rfl⟩ := Nat.exists_eq_add_one_of_ne_zero (Nat.ne_of_gt h1)
  obtain ⟨k, rfl⟩ := Nat.exists_eq_add_of_le h2
  have hp : (p + 1 + W64 - 1) % W64 = p := by
    rw [Nat.add_right_comm, Nat.add_sub_cancel, Nat.add_mod_right]
    exact Nat.mod_eq_of_lt (Nat.lt_of_le_of_lt (Nat.le_trans (Nat.le_succ p) (Nat.le_add_right _ k)) h3)
  rw [Contig.mk', hp, Nat.add_sub_cancel_left,
    drain_range h3 (k + 1) p (k + 2) (Nat.succ_add_eq_add_succ p k) (Nat.le_succ _), List.range'_eq_map_range]
  exact List.map_congr_left fun a _ => Nat.add_comm _ _

/-- `(NORESULT, NORESULT)` is an empty stream: the wrapped counter `2^64 − 1` is not below 0. -/
theorem contig_empty (fuel : Nat) : Contig.drain fuel (Contig.mk' 0 0) = [] := by
  cases fuel with
  | zero => rfl
  | succ f => simp [Contig.drain, Contig.hasNext, Contig.mk', W64]

end CSD.IdIter

namespace CSD.Dups
open CSD.FM (dd dedupAdj_cons_dd dedupAdj_eq_dups)
open CSD.ListIdx (drop_eq_cons)

theorem advance_step {ids : List Nat} {p a b : Nat} (fuel : Nat) (ha : ids[p]? = some a) (hb : ids[p + 1]? = some b) :
    advance ids (fuel + 1) p = if a = b then advance ids fuel (p + 1) else some (p + 1) := by
  rw [advance, ha, hb]

theorem drain_step {ids r : List Nat} {p q x sc f : Nat} (hlt : p < sc) (hp : ids[p]? = some x)
    (hq : advance ids ids.length p = some q) (hdr : It.drain f ⟨ids, q, sc⟩ = some r) :
    It.drain (f + 1) ⟨ids, p, sc⟩ = some (x :: r) := by
  rw [It.drain, It.hasNext]
  simp only [hlt, decide_true, ↓reduceIte, It.next, hp, hq, hdr]

/-- `next` has just read `x` at `p`: the loop stops behind the run of `x`. -/
theorem drain_after {ids : List Nat} (l : List Nat) : ∀ (x p fuel f sc : Nat), ids.drop p = x :: (l ++ [0]) →
    x ≠ 0 → (∀ v ∈ l, v ≠ 0) → l.length < fuel → l.length < f → sc = p + 1 + l.length →
    ∃ q, advance ids fuel p = some q ∧ It.drain f ⟨ids, q, sc⟩ = some (dd (some x) l) := by
  induction l with
  | nil =>
    intro x p fuel f sc hd hx _ hfuel hf hsc
    obtain ⟨fuel, rfl⟩ := Nat.exists_eq_succ_of_ne_zero (Nat.ne_zero_of_lt hfuel)
    obtain ⟨f, rfl⟩ := Nat.exists_eq_succ_of_ne_zero (Nat.ne_zero_of_lt hf)
    have ⟨hp, hd'⟩ := drop_eq_cons hd
    -- the sentinel ends the last run because no ID is 0
    refine ⟨p + 1, (advance_step fuel hp (drop_eq_cons hd').1).trans (if_neg hx), ?_⟩
    rw [It.drain, It.hasNext, hsc]
    exact if_neg fun h => Nat.lt_irrefl (p + 1) (of_decide_eq_true h)
  | cons y l ih =>
    intro x p fuel f sc hd hx hl hfuel hf hsc
    have hl' : ∀ v ∈ l, v ≠ 0 := fun v hv => hl v (List.mem_cons_of_mem _ hv)
    obtain ⟨fuel, rfl⟩ := Nat.exists_eq_succ_of_ne_zero (Nat.ne_zero_of_lt hfuel)
    obtain ⟨f, rfl⟩ := Nat.exists_eq_succ_of_ne_zero (Nat.ne_zero_of_lt hf)
    have ⟨hp, hd'⟩ := drop_eq_cons hd
    have hp' := (drop_eq_cons hd').1
    have hsc' : sc = p + 1 + 1 + l.length := by rw [hsc, List.length_cons, Nat.add_assoc (p + 1), Nat.add_comm 1]
    rw [advance_step fuel hp hp', dd]
    by_cases hxy : x = y
    · subst hxy
      rw [if_pos rfl, if_pos rfl]
      exact ih x (p + 1) fuel (f + 1) sc hd' hx hl' (Nat.lt_of_succ_lt_succ hfuel) (Nat.lt_of_succ_lt hf) hsc'
    · rw [if_neg hxy, if_neg (fun e => hxy (Option.some.inj e))]
      -- `next` runs the loop with the length of the array as fuel
      have hN : l.length < ids.length := by
        have := (List.drop_sublist (p + 1) ids).length_le
        rw [hd', List.length_append, List.length_cons] at this
        exact Nat.lt_of_lt_of_le (Nat.lt_succ_of_lt (Nat.lt_succ_self _)) this
      obtain ⟨q, hq, hdr⟩ := ih y (p + 1) ids.length f sc hd' (hl y List.mem_cons_self) hl' hN
        (Nat.lt_of_succ_lt_succ hf) hsc'
      exact ⟨p + 1, rfl, drain_step (hsc' ▸ Nat.lt_add_right _ (Nat.lt_succ_self _)) hp' hq hdr⟩

theorem drain_all (occs : List Nat) (hpos : ∀ v ∈ occs, v ≠ 0) :
    It.drain (occs.length + 1) ⟨occs ++ [0], 0, occs.length⟩ = some (dedupAdj occs) := by
  cases occs with
  | nil => rfl
  | cons x l =>
    have hlen : l.length < (x :: l ++ [0]).length := by
      rw [List.length_append]
      exact Nat.lt_succ_of_lt (Nat.lt_succ_self _)
    obtain ⟨q, hq, hdr⟩ := drain_after (ids := x :: l ++ [0]) l x 0 _ (l.length + 1) (l.length + 1) rfl
      (hpos x List.mem_cons_self) (fun v hv => hpos v (List.mem_cons_of_mem _ hv)) hlen (Nat.lt_succ_self _)
      (by rw [Nat.zero_add, Nat.add_comm])
    rw [← dedupAdj_eq_dups, dedupAdj_cons_dd]
    exact drain_step (Nat.zero_lt_succ _) rfl hq hdr

end CSD.Dups
