import CSD.Model.Pool

/-! The transitions of the pool as a relation, one constructor per edge of the two programs with its guard
as a hypothesis, so that a proof about "every step" is one case analysis (`Step.of_step`; by `induction h with`
where the goal allows: unlike `cases` it has no index equations to solve). -/
namespace CSD.Pool

theorem upd_same {α} (f : Nat → α) (i : Nat) (v : α) : upd f i v i = v := if_pos rfl
theorem upd_other {α} (f : Nat → α) (i j : Nat) (v : α) (h : j ≠ i) : upd f i v j = f j := if_neg h

theorem forall_upd {α} {f : Nat → α} {i : Nat} {v : α} {P : Nat → α → Prop}
    (old : ∀ j, j ≠ i → P j (f j)) (new : P i v) : ∀ j, P j (upd f i v j) := by
  intro j
  by_cases e : j = i
  · subst e
    rw [upd_same]
    exact new
  · rw [upd_other _ _ _ _ e]
    exact old j e

/-- A fact per worker, guarded by `j < n` and by `W` of its pc (`forall_upd_eq`: the pc is `w`), survives
`upd … i v` if it is shown for `v`. -/
theorem forall_upd_of {α} {f : Nat → α} {n i : Nat} {v : α} (W : α → Prop) {A : Nat → Prop}
    (old : ∀ j, j < n → W (f j) → A j) (new : i < n → W v → A i) :
    ∀ j, j < n → W (upd f i v j) → A j :=
  forall_upd (P := fun j p => j < n → W p → A j) (fun j _ => old j) new

theorem forall_upd_eq {α} {f : Nat → α} {n i : Nat} {v w : α} {A : Nat → Prop}
    (old : ∀ j, j < n → f j = w → A j) (new : i < n → v = w → A i) :
    ∀ j, j < n → upd f i v j = w → A j :=
  forall_upd_of (· = w) old new

theorem notifyAll_ne_waiting (s : State) (j : Nat) : (notifyAll s).wpc j ≠ .waiting := by
  simp only [notifyAll]
  split
  · nofun
  · assumption

theorem of_notifyAll {s : State} {j : Nat} (W : WPc → Prop) (hw : ¬ W .wake) (h : W ((notifyAll s).wpc j)) :
    W (s.wpc j) := by
  simp only [notifyAll] at h
  split at h
  · exact absurd h hw
  · exact h

theorem apply_notifyAll {α} (f : WPc → α) (h : f .wake = f .waiting) (s : State) (j : Nat) :
    f ((notifyAll s).wpc j) = f (s.wpc j) := by
  simp only [notifyAll]
  split
  · rw [‹s.wpc j = .waiting›, h]
  · rfl

theorem notifyAll_prod (s : State) : (notifyAll s).prod = s.prod := rfl
theorem notifyAll_queue (s : State) : (notifyAll s).queue = s.queue := rfl
theorem notifyAll_n (s : State) : (notifyAll s).n = s.n := rfl
theorem notifyAll_stopped (s : State) : (notifyAll s).stopped = s.stopped := rfl

theorem stepWorker_ge (s : State) (i : Nat) (h : i ≥ s.n) : stepWorker s i = none :=
  if_pos h

-- `apply stepWorker_ge` does not unify through `stepUnlocked`
theorem stepUnlocked_worker_ge (s : State) (i : Nat) (h : i ≥ s.n) : stepUnlocked s (.worker i) = none :=
  stepWorker_ge s i h

inductive Step (s : State) : Tid → State → Prop
  | loopStopped_set {i} : i < s.n → s.wpc i = .loopStopped → s.stopped i = true →
      Step s (.worker i) { s with wpc := upd s.wpc i .loopEmpty }
  | loopStopped_clear {i} : i < s.n → s.wpc i = .loopStopped → s.stopped i = false →
      Step s (.worker i) { s with wpc := upd s.wpc i .lock }
  | loopEmpty_exit {i} : i < s.n → s.wpc i = .loopEmpty → s.queue = [] →
      Step s (.worker i) { s with wpc := upd s.wpc i .exitNotify }
  | loopEmpty_go {i} : i < s.n → s.wpc i = .loopEmpty → s.queue ≠ [] →
      Step s (.worker i) { s with wpc := upd s.wpc i .lock }
  | lock {i} : i < s.n → s.wpc i = .lock → s.mutex = none →
      Step s (.worker i) { s with mutex := some (.worker i), wpc := upd s.wpc i .pred }
  | wake {i} : i < s.n → s.wpc i = .wake → s.mutex = none →
      Step s (.worker i) { s with mutex := some (.worker i), wpc := upd s.wpc i .pred }
  | pred_true {i} : i < s.n → s.wpc i = .pred → (s.stopped i = true ∨ s.queue ≠ []) →
      Step s (.worker i) { s with wpc := upd s.wpc i .check }
  | pred_false {i} : i < s.n → s.wpc i = .pred → s.stopped i = false → s.queue = [] →
      Step s (.worker i) { s with wpc := upd s.wpc i .sleep }
  | sleep {i} : i < s.n → s.wpc i = .sleep →
      Step s (.worker i) { s with mutex := none, wpc := upd s.wpc i .waiting }
  | check_exit {i} : i < s.n → s.wpc i = .check → s.stopped i = true → s.queue = [] →
      Step s (.worker i) { s with mutex := none, wpc := upd s.wpc i .exitNotify }
  | check_continue {i} : i < s.n → s.wpc i = .check → s.stopped i = false → s.queue = [] →
      Step s (.worker i) { s with mutex := none, wpc := upd s.wpc i .loopStopped }
  | check_pop {i t q} : i < s.n → s.wpc i = .check → s.queue = t :: q →
      Step s (.worker i) { s with queue := q, mutex := none, wpc := upd s.wpc i (.unlocked t) }
  | unlocked {i t} : i < s.n → s.wpc i = .unlocked t →
      Step s (.worker i) (notifyAll { s with wpc := upd s.wpc i (.run t) })
  | run {i t} : i < s.n → s.wpc i = .run t →
      Step s (.worker i) { s with ran := s.ran ++ [t], wpc := upd s.wpc i .loopStopped }
  | exitNotify {i} : i < s.n → s.wpc i = .exitNotify →
      Step s (.worker i) (notifyAll { s with wpc := upd s.wpc i .done })
  | spurious {i} : i < s.n → s.wpc i = .waiting →
      Step s (.spurious i) { s with wpc := upd s.wpc i .wake }
  | addLock {t r} : s.prod = .addLock t r → s.mutex = none →
      Step s .prod { s with mutex := some .prod, prod := .addPush t r }
  | addPush {t r} : s.prod = .addPush t r →
      Step s .prod { s with queue := s.queue ++ [t], added := s.added ++ [t], mutex := none, prod := .addNotify r }
  | addNotify {r} : s.prod = .addNotify r →
      Step s .prod (notifyAll { s with prod := nextAdd r })
  | stopLock : s.prod = .stopLock → s.mutex = none →
      Step s .prod { s with mutex := some .prod, prod := .stopSet 0 }
  | stopSet_lt {k} : s.prod = .stopSet k → k < s.n →
      Step s .prod { s with stopped := upd s.stopped k true, prod := .stopSet (k + 1) }
  | stopSet_ge {k} : s.prod = .stopSet k → ¬ k < s.n →
      Step s .prod { s with mutex := none, prod := .stopNotify }
  | stopNotify : s.prod = .stopNotify →
      Step s .prod (notifyAll { s with prod := .join })
  | join : s.prod = .join → (∀ i, i < s.n → s.wpc i = .done) →
      Step s .prod { s with prod := .done }

theorem Step.of_stepWorker {s s' : State} {i : Nat} (h : stepWorker s i = some s') :
    Step s (.worker i) s' := by
  have hi : i < s.n := Nat.lt_of_not_le fun hge => nomatch (stepWorker_ge s i hge).symm.trans h
  -- not `split`: on this `if` it simplifies the whole `match` under it
  rw [stepWorker, if_neg (Nat.not_le_of_lt hi)] at h
  split at h <;> rename_i hpc
  · split at h
    · cases h
      exact .loopStopped_set hi hpc ‹_›
    · cases h
      exact .loopStopped_clear hi hpc (Bool.eq_false_iff.mpr ‹_›)
  · split at h
    · cases h
      exact .loopEmpty_exit hi hpc (List.isEmpty_iff.mp ‹_›)
    · cases h
      exact .loopEmpty_go hi hpc (mt List.isEmpty_iff.mpr ‹_›)
  · obtain ⟨hm, h⟩ := Option.ite_none_right_eq_some.mp h
    cases h
    exact .lock hi hpc hm
  · split at h <;> rename_i hc
    · cases h
      exact .pred_true hi hpc (by simpa using hc)
    · cases h
      have : s.stopped i = false ∧ s.queue = [] := by simpa using hc
      exact .pred_false hi hpc this.1 this.2
  · cases h
    exact .sleep hi hpc
  · cases h
  · obtain ⟨hm, h⟩ := Option.ite_none_right_eq_some.mp h
    cases h
    exact .wake hi hpc hm
  · split at h <;> rename_i hc
    · cases h
      have : s.stopped i = true ∧ s.queue = [] := by simpa using hc
      exact .check_exit hi hpc this.1 this.2
    · split at h <;> rename_i hq
      · cases h
        exact .check_continue hi hpc (by simpa [hq] using hc) hq
      · cases h
        exact .check_pop hi hpc hq
  · cases h
    exact .unlocked hi hpc
  · cases h
    exact .run hi hpc
  · cases h
    exact .exitNotify hi hpc
  · cases h

theorem Step.of_stepProd {s s' : State} (h : stepProd s = some s') : Step s .prod s' := by
  unfold stepProd at h
  split at h <;> rename_i hp
  · obtain ⟨hm, h⟩ := Option.ite_none_right_eq_some.mp h
    cases h
    exact .addLock hp hm
  · cases h
    exact .addPush hp
  · cases h
    exact .addNotify hp
  · obtain ⟨hm, h⟩ := Option.ite_none_right_eq_some.mp h
    cases h
    exact .stopLock hp hm
  · split at h
    · cases h
      exact .stopSet_lt hp ‹_›
    · cases h
      exact .stopSet_ge hp ‹_›
  · cases h
    exact .stopNotify hp
  · obtain ⟨hall, h⟩ := Option.ite_none_right_eq_some.mp h
    cases h
    exact .join hp hall
  · cases h

theorem Step.of_step {s s' : State} {t : Tid} (h : step s t = some s') : Step s t s' := by
  cases t with
  | prod => exact .of_stepProd h
  | worker i => exact .of_stepWorker h
  | spurious i =>
    obtain ⟨hw, h⟩ := Option.ite_none_right_eq_some.mp h
    cases h
    exact .spurious hw.1 hw.2

theorem step_n {s s' : State} {t : Tid} (h : step s t = some s') : s'.n = s.n := by
  induction Step.of_step h <;> rfl

end CSD.Pool
