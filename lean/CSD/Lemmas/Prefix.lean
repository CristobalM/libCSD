import CSD.Lemmas.Sorted
import CSD.Lemmas.ListIdx

/-! The members with a given prefix in a sorted dictionary: they are contiguous, so a prefix search answers with an
ID range (`PrefixChar`), delimited by the first and the last match. -/
namespace CSD
open CSD.PFC

theorem isPrefix_iff_lcp : ∀ (p s : Str), isPrefix p s = true ↔ lcp p s = p.length
  | [], _ => ⟨fun _ => rfl, fun _ => rfl⟩
  | _ :: _, [] => ⟨nofun, nofun⟩
  | a :: p, b :: s => by
    rw [isPrefix, Bool.and_eq_true, beq_iff_eq, List.length_cons]
    by_cases h : a = b
    · subst h
      rw [lcp_cons_self, Nat.add_right_cancel_iff, ← isPrefix_iff_lcp p s]
      exact and_iff_right rfl
    · rw [lcp_cons_ne h]
      exact ⟨fun h' => absurd h'.1 h, nofun⟩

theorem lcp_lt_of_isPrefix_false {p s : Str} (h : isPrefix p s = false) : lcp p s < p.length :=
  Nat.lt_of_le_of_ne (lcp_le_left p s) fun e => Bool.false_ne_true (h.symm.trans ((isPrefix_iff_lcp p s).mpr e))

theorem lcp_le_of_between (a b c : Str) (h1 : scmp a b < 0) (h2 : scmp b c < 0) : lcp a c ≤ lcp a b := by
  apply Nat.le_of_not_lt
  intro h
  -- else `c` would relate to `b` as `a` does
  have := (lcp_of_lcp_gt a c b h).2
  rw [scmp_antisymm b c] at this
  omega

/-- The test `lenPrefix < strLen` of `searchDistinctPrefix`. -/
theorem isPrefix_iff_le_lcp {p a : Str} (ha : isPrefix p a = true) (c : Str) :
    isPrefix p c = true ↔ p.length ≤ lcp a c := by
  have h1 : lcp a p = p.length := lcp_comm p a ▸ (isPrefix_iff_lcp p a).mp ha
  rw [isPrefix_iff_lcp]
  constructor
  · intro e
    have := lcp_trans_ge p a c
    rwa [lcp_comm p a, h1, e, Nat.min_self] at this
  · intro h
    have := lcp_trans_ge a p c
    rw [h1, Nat.min_eq_left h] at this
    exact Nat.le_antisymm (lcp_le_left p c) this

theorem isPrefix_between {p a b c : Str} (hab : scmp a b < 0) (hbc : scmp b c < 0)
    (ha : isPrefix p a = true) (hc : isPrefix p c = true) : isPrefix p b = true :=
  (isPrefix_iff_le_lcp ha b).mpr (Nat.le_trans ((isPrefix_iff_le_lcp ha c).mp hc) (lcp_le_of_between a b c hab hbc))

theorem SortedLt.isPrefix_getElem_between {S : List Str} (hsort : SortedLt S) (p : Str) {i j k : Nat} (hij : i ≤ j)
    (hjk : j ≤ k) (hk : k < S.length)
    (hi' : isPrefix p (S[i]'(Nat.lt_of_le_of_lt (Nat.le_trans hij hjk) hk)) = true) (hk' : isPrefix p S[k] = true) :
    isPrefix p (S[j]'(Nat.lt_of_le_of_lt hjk hk)) = true := by
  rcases Nat.eq_or_lt_of_le hij with rfl | hij
  · exact hi'
  rcases Nat.eq_or_lt_of_le hjk with rfl | hjk
  · exact hk'
  exact isPrefix_between (hsort.getElem_lt hij (Nat.lt_trans hjk hk)) (hsort.getElem_lt hjk hk) hi' hk'

end CSD

namespace CSD.PFC
open CSD

/-- The answer of a prefix search `(lo, hi)` describes the members that start with `q`. -/
def PrefixChar (S : List Str) (q : Str) (lo hi : Nat) : Prop :=
  (lo = 0 ∧ hi = 0 ∧ ∀ i (h : i < S.length), isPrefix q S[i] = false) ∨
  (1 ≤ lo ∧ lo ≤ hi ∧ hi ≤ S.length ∧ ∀ i (h : i < S.length), (isPrefix q S[i] = true ↔ lo ≤ i + 1 ∧ i + 1 ≤ hi))

/-- Each side asks what its scan delivers: `searchPrefix` that nothing before `i0` matches, `searchDistinctPrefix`
that `i1 + 1` does not. -/
theorem PrefixChar.of_ends {S : List Str} (hsort : SortedLt S) (q : Str) {i0 i1 : Nat} {a c : Str}
    (ha : S[i0]? = some a) (hc : S[i1]? = some c) (ma : isPrefix q a = true) (mc : isPrefix q c = true)
    (hlo : ∀ i s, i < i0 → S[i]? = some s → isPrefix q s = false)
    (hhi : ∀ s, S[i1 + 1]? = some s → isPrefix q s = false) {lo hi : Nat} (elo : lo = i0 + 1) (ehi : hi = i1 + 1) :
    PrefixChar S q lo hi := by
  subst elo ehi
  obtain ⟨h0, rfl⟩ := List.getElem?_eq_some_iff.mp ha
  obtain ⟨h1, rfl⟩ := List.getElem?_eq_some_iff.mp hc
  have h01 : i0 ≤ i1 := Nat.le_of_not_lt fun h => by rw [hlo i1 _ h hc] at mc; cases mc
  refine Or.inr ⟨Nat.le_add_left 1 i0, Nat.succ_le_succ h01, h1, fun i h => ⟨fun hm => ⟨?_, ?_⟩, fun ⟨hl, hr⟩ => ?_⟩⟩
  · refine Nat.succ_le_succ (Nat.le_of_not_lt fun hlt => ?_)
    rw [hlo i _ hlt (List.getElem?_eq_getElem h)] at hm; cases hm
  · -- a match beyond `i1 + 1` would make `S[i1 + 1]` one
    refine Nat.succ_le_succ (Nat.le_of_not_lt fun hlt => ?_)
    have hn := hhi _ (List.getElem?_eq_getElem (Nat.lt_of_le_of_lt hlt h))
    rw [hsort.isPrefix_getElem_between q (Nat.le_succ i1) hlt h mc hm] at hn; cases hn
  · exact hsort.isPrefix_getElem_between q (Nat.le_of_succ_le_succ hl) (Nat.le_of_succ_le_succ hr) h1 ma mc

theorem PrefixChar.exists_match {S : List Str} {q : Str} {lo hi : Nat} (h1 : 1 ≤ lo) (h2 : lo ≤ hi) (h3 : hi ≤ S.length)
    (hiff : ∀ i (h : i < S.length), (isPrefix q S[i] = true ↔ lo ≤ i + 1 ∧ i + 1 ≤ hi)) :
    ∃ s ∈ S, isPrefix q s = true := by
  obtain ⟨l, rfl⟩ := Nat.exists_eq_add_one_of_ne_zero (Nat.ne_of_gt h1)
  have hlt : l < S.length := Nat.lt_of_lt_of_le h2 h3
  exact ⟨S[l], List.getElem_mem hlt, (hiff l hlt).mpr ⟨Nat.le_refl _, h2⟩⟩

theorem PrefixChar.filter_cases {S : List Str} {q : Str} {lo hi : Nat} (h : PrefixChar S q lo hi) :
    (lo = 0 ∧ S.filter (isPrefix q) = []) ∨
    (1 ≤ lo ∧ lo ≤ hi ∧ hi ≤ S.length ∧ S.filter (isPrefix q) ≠ [] ∧
      S.filter (isPrefix q) = (S.drop (lo - 1)).take (hi - lo + 1)) := by
  rcases h with ⟨rfl, rfl, hnone⟩ | ⟨h1, h2, h3, hiff⟩
  · refine Or.inl ⟨rfl, List.filter_eq_nil_iff.mpr fun a ha => ?_⟩
    obtain ⟨i, hi', rfl⟩ := List.mem_iff_getElem.mp ha
    rw [hnone i hi']; simp
  · obtain ⟨s, hs, hm⟩ := exists_match h1 h2 h3 hiff
    exact Or.inr ⟨h1, h2, h3, fun e => List.filter_eq_nil_iff.mp e s hs hm,
      ListIdx.filter_range (isPrefix q) S lo hi h1 h2 hiff⟩

theorem PrefixChar.eq_zero {S : List Str} {q : Str} {lo hi : Nat} (h : PrefixChar S q lo hi)
    (hno : ∀ s ∈ S, isPrefix q s = false) : lo = 0 ∧ hi = 0 := by
  rcases h with ⟨h1, h2, _⟩ | ⟨h1, h2, h3, hiff⟩
  · exact ⟨h1, h2⟩
  · obtain ⟨s, hs, hm⟩ := exists_match h1 h2 h3 hiff
    rw [hno s hs] at hm
    cases hm

end CSD.PFC
