import CSD.Lemmas.RPDACLocate

/-! `locatePrefix` of RPDAC returns the ID range of the zeros of `strncmp`; the string iterator drains an ID range
to its members in order (`extractTable`, `extractPrefix`). -/
namespace CSD.RPDAC
open CSD CSD.RePair CSD.PFC

-- The elaborated statement of `locatePrefix_represents` contains `pf_get._proof_1`: Lean names the bound proof of
-- `S[id - 1]` after the first declaration of the module that states it. So this stays directly before it under this
-- name, and both stay out of the module of `locateLoop_spec`, which states the same bound.
theorem pf_get (S : List Str) (hS : ∀ s ∈ S, nulFree s) (p : Str) (hp : nulFree p) (id : Nat) (h1 : 1 ≤ id)
    (h2 : id ≤ S.length) : isPrefix p (S[id - 1]'(by omega)) = true ↔ along S (pcmp · p) id = 0 := by
  rw [along_get S _ h1 h2, pcmp_zero_iff (hS _ (List.getElem_mem _)) hp]

/-- **`locatePrefix` is exact**: `(0, 0)` when no member starts with the pattern, else the ID range of those that do. -/
theorem locatePrefix_represents (d : D) (S : List Str) (r : Represents d S) (hS : ∀ s ∈ S, nulFree s)
    (hsort : SortedLt S) (p : Str) (hp : nulFree p) (hne : p ≠ []) :
    ∃ lo hi, locatePrefix d (bytesNat p) = some (lo, hi) ∧
      ((lo = 0 ∧ hi = 0 ∧ ∀ id (h1 : 1 ≤ id) (h2 : id ≤ S.length), isPrefix p (S[id - 1]'(by omega)) = false) ∨
       (1 ≤ lo ∧ lo ≤ hi ∧ hi ≤ S.length ∧
         ∀ id (h1 : 1 ≤ id) (h2 : id ≤ S.length), (isPrefix p (S[id - 1]'(by omega)) = true ↔ lo ≤ id ∧ id ≤ hi))) := by
  have hzero := pf_get S hS p hp
  show ∃ lo hi, prefixRange (idCmp d (comparePrefixDAC d.g · (bytesNat p))) d.seqs.length = some (lo, hi) ∧ _
  rw [r.len]
  obtain ⟨lo, hi, h, hcase⟩ := prefixRange_spec (pcmp_along_mono hS hsort p) _
    (idCmp_along r hS fun syms s hv he hs => comparePrefixDAC_eq d.g r.wf syms hv s p he hs hp hne)
  refine ⟨lo, hi, h, hcase.imp (fun ⟨h1, h2, hnz⟩ => ⟨h1, h2, fun id h1 h2 => ?_⟩)
    (fun ⟨h1, h2, h3, hiff⟩ => ⟨h1, h2, h3, fun id h1 h2 => (hzero id h1 h2).trans (hiff id h1 h2)⟩)⟩
  exact Bool.eq_false_iff.mpr fun hpre => hnz id h1 h2 ((hzero id h1 h2).mp hpre)

theorem drain_represents (d : D) (S : List Str) (r : Represents d S) (fuel : Nat) :
    ∀ (i j : Nat), j ≤ S.length → j - i ≤ fuel →
      drain d fuel { processed := i, scanneable := j } = some (((S.drop i).take (j - i)).map bytesNat) := by
  induction fuel with
  | zero =>
    intro i j _ hf
    rw [Nat.le_zero.mp hf]; rfl
  | succ fuel ih =>
    intro i j hj hf
    unfold drain
    by_cases hlt : i < j
    · have hi : i < S.length := Nat.lt_of_lt_of_le hlt hj
      have hi' : i < d.seqs.length := by rw [r.len]; exact hi
      -- `j - (i + 1)` unfolds to `j - i - 1`
      have hk : j - i = j - (i + 1) + 1 := (Nat.sub_add_cancel (Nat.sub_pos_of_lt hlt)).symm
      simp only [hlt, ↓reduceIte, iterNext, List.getElem?_eq_getElem hi']
      rw [r.exp i hi' hi, ih (i + 1) j hj (Nat.sub_le_of_le_add hf : j - i - 1 ≤ fuel), hk,
        List.drop_eq_getElem_cons hi, List.take_succ_cons, List.map_cons]
    · simp only [hlt, ↓reduceIte]
      rw [Nat.sub_eq_zero_of_le (Nat.le_of_not_lt hlt)]; rfl

theorem extractTable_represents (d : D) (S : List Str) (r : Represents d S) :
    extractTable d = some (S.map bytesNat) := by
  unfold extractTable
  rw [r.len, drain_represents d S r S.length 0 S.length (Nat.le_refl _) (Nat.sub_le _ _), List.drop_zero, Nat.sub_zero,
    List.take_length]

theorem extractPrefix_represents (d : D) (S : List Str) (r : Represents d S) (hS : ∀ s ∈ S, nulFree s)
    (hsort : SortedLt S) (hlen : S.length < 2 ^ 64) (p : Str) (hp : nulFree p) (hne : p ≠ []) :
    extractPrefix d (bytesNat p) = some ((S.filter (isPrefix p)).map bytesNat) := by
  obtain ⟨lo, hi, hloc, hchar⟩ := locatePrefix_represents d S r hS hsort p hp hne
  unfold extractPrefix
  rw [hloc]
  simp only
  rcases hchar with ⟨rfl, rfl, hnone⟩ | ⟨h1, h2, h3, hiff⟩
  · rw [List.filter_eq_nil_iff.mpr fun a ha => ?_]
    · rfl
    · obtain ⟨i, hi, rfl⟩ := List.mem_iff_getElem.mp ha
      exact Bool.eq_false_iff.mp (hnone (i + 1) (Nat.le_add_left 1 i) hi)
  · obtain ⟨k, rfl⟩ := Nat.exists_eq_add_of_le' h1
    have hcount : hi - (k + 1) + 1 = hi - k := Nat.sub_add_cancel (Nat.sub_pos_of_lt h2)
    -- `processed` is `(k + 1 + 2^64 - 1) % 2^64 = k`, which needs `hlen`
    rw [Nat.add_right_comm, Nat.add_sub_cancel, Nat.add_mod_right,
      Nat.mod_eq_of_lt (Nat.lt_trans (Nat.lt_of_lt_of_le h2 h3) hlen),
      drain_represents d S r hi k hi h3 (Nat.sub_le _ _), hcount.symm,
      ListIdx.filter_range (isPrefix p) S (k + 1) hi h1 h2 fun i hi' => hiff (i + 1) (Nat.le_add_left 1 i) hi']
    rfl

end CSD.RPDAC
