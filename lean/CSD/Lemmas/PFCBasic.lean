import CSD.Lemmas.Order
import CSD.Lemmas.VByte
import CSD.Lemmas.ListIdx

/-! Reading what the PFC constructor wrote: `readCStr`, `decodeNext`/`decodeSteps` on `encInternal`/`encTail`;
`chunks`, the offsets behind the positional index, the fields of `build`. -/
namespace CSD.PFC
open CSD

theorem readCStr_append {s : Str} (h : nulFree s) (rest : List UInt8) :
    readCStr (s ++ 0 :: rest) = some (s, rest) := by
  induction s with
  | nil => simp [readCStr]
  | cons c s ih =>
    have hc := (nulFree_cons.mp h)
    simp [readCStr, hc.1, ih hc.2]

theorem decode_encInternal (prev : Str) {cur : Str} (hc : nulFree cur) (rest : List UInt8) :
    ∃ used, VByte.decode (encInternal prev cur ++ rest) = some (lcp prev cur, used) ∧
      readCStr ((encInternal prev cur ++ rest).drop used) = some (cur.drop (lcp prev cur), rest) := by
  refine ⟨(VByte.encode (lcp prev cur)).length, ?_, ?_⟩
  · simp only [encInternal, List.append_assoc]
    exact VByte.decode_encode _ _
  · simp only [encInternal, List.append_assoc, List.drop_left, List.singleton_append]
    exact readCStr_append (nulFree_drop hc _) _

theorem decode_encTail_cons (c : Str) {c2 : Str} (hc2 : nulFree c2) (L : List Str) (rest : List UInt8) :
    ∃ used, VByte.decode (encTail c (c2 :: L) ++ rest) = some (lcp c c2, used) ∧
      readCStr ((encTail c (c2 :: L) ++ rest).drop used) = some (c2.drop (lcp c c2), encTail c2 L ++ rest) := by
  rw [encTail, List.append_assoc]
  exact decode_encInternal c hc2 _

theorem decodeNext_encInternal (prev cur : Str) (hc : nulFree cur) (rest : List UInt8) :
    decodeNext (encInternal prev cur ++ rest) prev = some (cur, rest) := by
  obtain ⟨used, hdec, hrd⟩ := decode_encInternal prev hc rest
  simp only [decodeNext, hdec, hrd, Nat.not_lt.mpr (lcp_le_left prev cur), ↓reduceIte, take_lcp_append_drop]

def lastOf (cur : Str) : List Str → Str
  | [] => cur
  | s :: L => lastOf s L

theorem lastOf_take (h : Str) (L : List Str) (k : Nat) (s : Str) (hk : (h :: L)[k]? = some s) :
    lastOf h (L.take k) = s := by
  induction k generalizing h L with
  | zero => exact Option.some.inj hk
  | succ k ih =>
    cases L with
    | nil => cases hk
    | cons c L => exact ih c L hk

theorem encTail_append : ∀ (L1 L2 : List Str) (cur : Str),
    encTail cur (L1 ++ L2) = encTail cur L1 ++ encTail (lastOf cur L1) L2 := by
  intro L1 L2
  induction L1 with
  | nil => exact fun _ => rfl
  | cons s L1 ih =>
    intro cur
    rw [List.cons_append, encTail, encTail, lastOf, List.append_assoc, ih s]

theorem decodeSteps_take (k : Nat) (L : List Str) (h : Str) (rest : List UInt8) (hn : ∀ s ∈ L, nulFree s)
    (hk : k ≤ L.length) :
    decodeSteps k (encTail h L ++ rest) h =
      some (lastOf h (L.take k), encTail (lastOf h (L.take k)) (L.drop k) ++ rest) := by
  induction k generalizing h L with
  | zero => rfl
  | succ k ih =>
    cases L with
    | nil => exact absurd hk (Nat.not_succ_le_zero k)
    | cons s L =>
      rw [decodeSteps, encTail, List.append_assoc, decodeNext_encInternal h s (hn s List.mem_cons_self)]
      exact ih L s (fun t ht => hn t (List.mem_cons_of_mem _ ht)) (Nat.le_of_succ_le_succ hk)

theorem take_drop_cons {α : Type} (S : List α) (n b : Nat) (hn : n < S.length) (hb : 0 < b) :
    (S.drop n).take b = S[n] :: (S.drop (n + 1)).take (b - 1) := by
  obtain ⟨b', rfl⟩ : ∃ b', b = b' + 1 := ⟨b - 1, (Nat.sub_add_cancel hb).symm⟩
  rw [List.drop_eq_getElem_cons hn, List.take_succ_cons, Nat.add_sub_cancel]

theorem tail_length_ge {α : Type} {S : List α} {n b o : Nat} (ho : o < b) (hn : n + o < S.length) :
    o ≤ ((S.drop (n + 1)).take (b - 1)).length := by
  rw [List.length_take, List.length_drop]
  exact Nat.le_min.mpr ⟨Nat.le_sub_one_of_lt ho,
    Nat.le_sub_of_add_le (by rw [Nat.add_comm, Nat.add_right_comm]; exact hn)⟩

theorem chunks_nil (b : Nat) : chunks b [] = [] := by
  unfold chunks; simp

theorem chunks_cons (b : Nat) (S : List Str) (hb : b ≠ 0) (hS : S ≠ []) :
    chunks b S = S.take b :: chunks b (S.drop b) := by
  rw [chunks]; simp [hb, hS]

theorem chunks_eq_nil_iff (b : Nat) (hb : b ≠ 0) (S : List Str) : chunks b S = [] ↔ S = [] := by
  constructor
  · intro h
    by_cases hS : S = []
    · exact hS
    · rw [chunks_cons b S hb hS] at h; cases h
  · rintro rfl; exact chunks_nil b

theorem chunks_flatten (b : Nat) (hb : b ≠ 0) (S : List Str) : (chunks b S).flatten = S := by
  induction h : S.length using Nat.strongRecOn generalizing S with
  | _ n ih =>
    by_cases hS : S = []
    · subst hS
      exact congrArg List.flatten (chunks_nil b)
    · rw [chunks_cons b S hb hS, List.flatten_cons, ih _ ?_ (S.drop b) rfl, List.take_append_drop]
      rw [List.length_drop, ← h]
      exact Nat.sub_lt (List.length_pos_iff.mpr hS) (Nat.pos_of_ne_zero hb)

theorem chunks_drop (b : Nat) (hb : b ≠ 0) : ∀ (k : Nat) (S : List Str),
    (chunks b S).drop k = chunks b (S.drop (k * b))
  | 0, S => by simp
  | k + 1, S => by
    by_cases hS : S = []
    · subst hS; simp [chunks_nil]
    · rw [chunks_cons b S hb hS, List.drop_succ_cons, chunks_drop b hb k (S.drop b), List.drop_drop]
      rw [Nat.succ_mul, Nat.add_comm]

theorem chunks_getElem? (b : Nat) (hb : b ≠ 0) : ∀ (S : List Str) (k : Nat),
    k * b < S.length → (chunks b S)[k]? = some ((S.drop (k * b)).take b) := by
  intro S k h
  have hne : S.drop (k * b) ≠ [] := fun e => Nat.not_le.mpr h (List.drop_eq_nil_iff.mp e)
  have h0 := List.getElem?_drop (xs := chunks b S) (i := k) (j := 0)
  rw [chunks_drop b hb, chunks_cons b _ hb hne] at h0
  exact h0.symm

theorem encChunks_cons (b : Nat) (hb : 0 < b) (S : List Str) (n : Nat) (hn : n < S.length) :
    ((chunks b (S.drop n)).map encBucket).flatten =
      S[n] ++ 0 :: (encTail S[n] ((S.drop (n + 1)).take (b - 1)) ++
        ((chunks b (S.drop (n + b))).map encBucket).flatten) := by
  have hne : S.drop n ≠ [] := fun e => Nat.not_le.mpr hn (List.drop_eq_nil_iff.mp e)
  rw [chunks_cons b _ (Nat.ne_of_gt hb) hne, take_drop_cons S _ _ hn hb, List.drop_drop, List.map_cons,
    List.flatten_cons, encBucket, List.append_assoc, List.append_assoc]
  rfl

theorem lt_buckets_iff (b n k : Nat) (hb : 0 < b) : k < (n + b - 1) / b ↔ k * b < n := by
  rw [Nat.lt_iff_add_one_le, Nat.le_div_iff_mul_le hb, Nat.succ_mul, Nat.le_sub_one_iff_lt (Nat.add_pos_right n hb),
    Nat.add_lt_add_iff_right]

theorem lt_chunks_length (b : Nat) (hb : b ≠ 0) (k : Nat) (S : List Str) :
    k < (chunks b S).length ↔ k * b < S.length := by
  rw [← Nat.not_le, ← List.drop_eq_nil_iff, chunks_drop b hb, chunks_eq_nil_iff b hb, List.drop_eq_nil_iff,
    Nat.not_le]

theorem chunks_length (b : Nat) (hb : b ≠ 0) (S : List Str) :
    (chunks b S).length = (S.length + b - 1) / b := by
  -- the two numbers have the same `k` below them
  have h := fun k => (lt_chunks_length b hb k S).trans (lt_buckets_iff b S.length k (Nat.pos_of_ne_zero hb)).symm
  exact Nat.le_antisymm (Nat.not_lt.mp fun hlt => Nat.lt_irrefl _ ((h _).mp hlt))
    (Nat.not_lt.mp fun hlt => Nat.lt_irrefl _ ((h _).mpr hlt))

/-- `if (bucketsize < 2) bucketsize = 2` of the constructor. -/
def clamp (b0 : Nat) : Nat := if b0 < 2 then 2 else b0

theorem clamp_ge_two (b0 : Nat) : 2 ≤ clamp b0 := by
  unfold clamp; split <;> omega

theorem clamp_of_ge2 {b : Nat} (h : 2 ≤ b) : clamp b = b := if_neg (Nat.not_lt.mpr h)

theorem clamp_pos (b0 : Nat) : 0 < clamp b0 := Nat.lt_of_lt_of_le Nat.zero_lt_two (clamp_ge_two b0)

theorem build_elements (b0 : Nat) (S : List Str) : (build b0 S).elements = S.length := rfl
theorem build_bucketsize (b0 : Nat) (S : List Str) : (build b0 S).bucketsize = clamp b0 := rfl
theorem build_text (b0 : Nat) (S : List Str) :
    (build b0 S).text = ((chunks (clamp b0) S).map encBucket).flatten := rfl
theorem build_bl (b0 : Nat) (S : List Str) :
    (build b0 S).bl = 0 :: offsetsFrom 0 ((chunks (clamp b0) S).map encBucket) ++
      [((chunks (clamp b0) S).map encBucket).flatten.length] := rfl

theorem build_buckets (b0 : Nat) (S : List Str) :
    (build b0 S).buckets = (S.length + clamp b0 - 1) / clamp b0 := by
  show ((chunks (clamp b0) S).map encBucket).length = _
  rw [List.length_map, chunks_length _ (Nat.ne_of_gt (clamp_pos b0))]

/-- The constructor's `if (len >= maxlength) maxlength = len + 1` is a running maximum of `len + 1`. -/
theorem build_maxlength (b0 : Nat) (S : List Str) :
    (build b0 S).maxlength = S.foldl (fun m s => max m (s.length + 1)) 0 := by
  show S.foldl (fun m s => if s.length ≥ m then s.length + 1 else m) 0 = _
  congr 1
  funext m s
  split
  next h => exact (Nat.max_eq_right (Nat.le_succ_of_le h)).symm
  next h => exact (Nat.max_eq_left (Nat.not_le.mp h)).symm

theorem maxlength_bounds (b0 : Nat) (S : List Str) :
    ∀ s ∈ S, s.length + 1 ≤ (build b0 S).maxlength := by
  rw [build_maxlength]
  exact ListIdx.le_foldl_max _ S 0

theorem maxlength_le (b0 : Nat) (S : List Str) :
    (build b0 S).maxlength ≤ Spec.maxLen S + 1 := by
  rw [build_maxlength, ListIdx.foldl_max_le_iff]
  exact ⟨Nat.zero_le _, fun s hs =>
    Nat.succ_le_succ (ListIdx.le_foldl_max (·.length) S 0 s hs)⟩

theorem offsetsFrom_getElem? (encs : List (List UInt8)) (off k : Nat) (h : k < encs.length) :
    (offsetsFrom off encs)[k]? = some (off + (encs.take k).flatten.length) := by
  induction encs generalizing off k with
  | nil => exact absurd h (Nat.not_lt_zero k)
  | cons e rest ih =>
    cases k with
    | zero => rfl
    | succ k =>
      rw [offsetsFrom, List.getElem?_cons_succ, ih (off + e.length) k (Nat.lt_of_succ_lt_succ h), List.take_succ_cons,
        List.flatten_cons, List.length_append, Nat.add_assoc]

theorem offsetsFrom_length : ∀ (encs : List (List UInt8)) (off : Nat),
    (offsetsFrom off encs).length = encs.length
  | [], _ => rfl
  | _ :: rest, _ => congrArg (· + 1) (offsetsFrom_length rest _)

theorem offsetsFrom_le : ∀ (encs : List (List UInt8)) (off : Nat), ∀ v ∈ offsetsFrom off encs, v ≤ off + encs.flatten.length
  | [], _, _, h => (List.not_mem_nil h).elim
  | e :: rest, off, v, h => by
    rcases List.mem_cons.mp h with rfl | h
    · exact Nat.le_add_right _ _
    · rw [List.flatten_cons, List.length_append, ← Nat.add_assoc]
      exact offsetsFrom_le rest (off + e.length) v h

end CSD.PFC
