import CSD.Lemmas.RPDACCompare
import CSD.Lemmas.Strncmp
import CSD.Lemmas.ListIdx

/-! `extractStringAndCompareDAC` is `strcmp`, `extractPrefixAndCompareDAC` is `strncmp(·, p, |p|)`: the flat
comparison against the C string in the buffer, then what each routine does when the stored string ran out. -/
namespace CSD.RPDAC
open CSD CSD.RePair CSD.PFC
open CSD.ListIdx (drop_eq_cons)

-- one function under four names: also `RPFC.natsOf`, `Hash.natBytes`, `FM.symsOf`
/-- Bytes as the symbol numbers the grammar works with. -/
def bytesNat (s : Str) : List Nat := s.map (·.toNat)

theorem bytesNat_cons (a : UInt8) (as : Str) : bytesNat (a :: as) = a.toNat :: bytesNat as := rfl

/-- The stored string ran out at `pos`: equal if the query (which ends at `n`) did too, else below it. -/
def ranOut (buf : List Nat) (n pos : Nat) : Option Int :=
  if pos = n then some 0 else match buf[pos]? with
    | some b => some (-(b : Int))
    | none => none

theorem ranOut_cons {buf : List Nat} {n pos : Nat} {b : UInt8} {bs : Str}
    (hd : buf.drop pos = bytesNat (b :: bs) ++ [0]) (hn : pos + (b :: bs).length = n) :
    ranOut buf n pos = some (-(b.toNat : Int)) := by
  rw [ranOut, if_neg (Nat.ne_of_lt (Nat.lt_of_lt_of_eq (Nat.lt_add_of_pos_right (Nat.succ_pos _)) hn)),
    (drop_eq_cons hd).1]

theorem cmpK_scmp (buf : List Nat) (n : Nat) (s : Str) : ∀ (q : Str) (pos : Nat), nulFree s →
    buf.drop pos = bytesNat q ++ [0] → pos + q.length = n →
    cmpK Out.sign never buf (bytesNat s) (ranOut buf n) pos = some (scmp s q) := by
  induction s with
  | nil =>
    intro q pos _ hd hn
    cases q with
    | nil => exact if_pos hn
    | cons b bs => exact ranOut_cons hd hn
  | cons a as ih =>
    intro q pos hs hd hn
    rw [bytesNat_cons]
    cases q with
    | nil =>
      rw [cmpK_cons_ne _ _ _ (drop_eq_cons hd).1 (toNat_ne (nulFree_cons.mp hs).1)]
      exact congrArg some (Int.sub_zero _)
    | cons b bs =>
      have hb := drop_eq_cons (x := b.toNat) (t := bytesNat bs ++ [0]) hd
      by_cases hab : a = b
      · subst hab
        rw [cmpK_cons_eq _ _ _ hb.1, scmp, if_pos rfl]
        exact ih bs (pos + 1) (nulFree_cons.mp hs).2 hb.2 ((Nat.add_right_comm ..).trans hn)
      · rw [cmpK_cons_ne _ _ _ hb.1 (toNat_ne hab), scmp, if_neg hab]; rfl

/-- **`extractStringAndCompareDAC` computes `strcmp(stored, query)`**, with every read inside the query's buffer. -/
theorem compareDAC_eq (g : Grammar) (hwf : g.wf = true) (syms : List Nat)
    (hv : ∀ s ∈ syms, s < g.terminals + g.rules.length) (s q : Str) (hexp : g.expand syms = bytesNat s)
    (hs : nulFree s) (hq : nulFree q) : compareDAC g syms (bytesNat q) = some (scmp s q) := by
  -- with `cmpSyms` unfolded, `hcons` is `andThen_gate_assoc`
  let buf := bytesNat q ++ [0]
  let L := fun syms pos => andThen Out.sign (cmpSyms g buf syms pos) (ranOut buf (bytesNat q).length)
  show L syms 0 = _
  rw [loop_cps g buf hwf never (cmpRule g buf) (fun _ _ _ => rfl) Out.sign (ranOut buf (bytesNat q).length) L
    (fun _ => rfl) (fun _ _ _ => andThen_gate_assoc Out.sign never _ _ _) syms hv 0, hexp]
  exact cmpK_scmp _ _ s q 0 hs rfl (by simp [bytesNat])

/-- `comparePrefixDAC`'s answer on the outcome of `cmpSymsP`. -/
def prefixAnswer (buf : List Nat) (n : Nat) (r : Option (Int × Nat × Bool)) : Option Int :=
  match r with
  | none => none
  | some (c, pos, stopped) => if c ≠ 0 then some c else if stopped then some 0 else ranOut buf n pos

theorem prefixAnswer_andThen (buf : List Nat) (n : Nat) (G : Nat → Option Bool) (r : Option (Int × Nat))
    (k : Nat → Option (Int × Nat × Bool)) :
    prefixAnswer buf n (andThen Out.flagged r (gate Out.flagged G k)) =
      andThen Out.sign r (gate Out.sign G fun p => prefixAnswer buf n (k p)) := by
  cases r with
  | none => rfl
  | some cp =>
    obtain ⟨c, p⟩ := cp
    by_cases hc : c ≠ 0
    · simp only [andThen, if_pos hc, Out.flagged, Out.sign, prefixAnswer]
    · simp only [andThen, if_neg hc]
      unfold gate
      cases G p with
      | none => rfl
      | some b => cases b <;> rfl

theorem cmpK_pcmp (buf : List Nat) (n : Nat) (s : Str) : ∀ (p : Str) (pos : Nat), nulFree p → p ≠ [] →
    buf.drop pos = bytesNat p ++ [0] → pos + p.length = n →
    cmpK Out.sign (atEnd buf) buf (bytesNat s) (ranOut buf n) pos = some (pcmp s p) := by
  induction s with
  | nil =>
    intro p pos _ hne hd hn
    cases p with
    | nil => exact absurd rfl hne
    | cons b bs => exact ranOut_cons hd hn
  | cons a as ih =>
    intro p pos hp hne hd hn
    cases p with
    | nil => exact absurd rfl hne
    | cons b bs =>
      have hb := drop_eq_cons (x := b.toNat) (t := bytesNat bs ++ [0]) hd
      rw [bytesNat_cons]
      by_cases hab : a = b
      · subst hab
        rw [cmpK_cons_eq _ _ _ hb.1, pcmp_cons_same]
        unfold gate atEnd
        cases bs with
        | nil =>
          rw [(drop_eq_cons (x := 0) (t := []) hb.2).1]; rfl
        | cons b2 bs2 =>
          have hb2 : b2.toNat ≠ 0 := toNat_ne (nulFree_cons.mp (nulFree_cons.mp hp).2).1
          rw [(drop_eq_cons (x := b2.toNat) (t := bytesNat bs2 ++ [0]) hb.2).1]
          simp only [hb2, decide_false]
          exact ih (b2 :: bs2) (pos + 1) (nulFree_cons.mp hp).2 (List.cons_ne_nil _ _) hb.2
            ((Nat.add_right_comm ..).trans hn)
      · rw [cmpK_cons_ne _ _ _ hb.1 (toNat_ne hab), pcmp_cons_ne hab]; rfl

/-- **`extractPrefixAndCompareDAC` computes `strncmp(stored, pattern, |pattern|)`** for a non-empty pattern. -/
theorem comparePrefixDAC_eq (g : Grammar) (hwf : g.wf = true) (syms : List Nat)
    (hv : ∀ s ∈ syms, s < g.terminals + g.rules.length) (s p : Str) (hexp : g.expand syms = bytesNat s)
    (hs : nulFree s) (hp : nulFree p) (hne : p ≠ []) :
    comparePrefixDAC g syms (bytesNat p) = some (pcmp s p) := by
  -- with `cmpSymsP` unfolded, `hcons` is `prefixAnswer_andThen`
  let buf := bytesNat p ++ [0]
  let L := fun syms pos => prefixAnswer buf (bytesNat p).length (cmpSymsP g buf syms pos)
  show L syms 0 = _
  rw [loop_cps g buf hwf (atEnd buf) (cmpRuleP g buf) (fun _ _ _ => rfl) Out.sign (ranOut buf (bytesNat p).length) L
    (fun _ => rfl) (fun _ _ _ => prefixAnswer_andThen _ _ _ _ _) syms hv 0, hexp]
  exact cmpK_pcmp _ _ s p 0 hp hne rfl (by simp [bytesNat])

end CSD.RPDAC
