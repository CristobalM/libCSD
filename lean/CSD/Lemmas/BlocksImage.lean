import CSD.Model.BlocksImage
import CSD.Lemmas.RPDACImage

/-! `StringDictionaryHASHRPDACBlocks::load ∘ save = id` on bytes. -/
namespace CSD.BlocksImg
open CSD.LogSeq (leBytes readLE readLE_leBytes)

/-- `k`, not `l.length`: `load` reads samples, starts and parts with the one count `parts.length`. -/
theorem readSamples_save {l : List (List UInt8)} {k : Nat} (hk : l.length = k) (h : ∀ s ∈ l, s.length < 2 ^ 32)
    (rest : List UInt8) : readSamples k (saveSamples l ++ rest) = some (l, rest) := by
  subst hk
  induction l with
  | nil => rfl
  | cons s l ih =>
    -- one round of the loop; in `ih` too, whose `saveSamples` must become a `flatMap` like the goal's
    simp only [saveSamples, List.flatMap_cons, List.append_assoc, List.length_cons, readSamples,
      readLE_leBytes 4 (h s List.mem_cons_self), List.length_append, Nat.not_lt.mpr (Nat.le_add_right _ _),
      List.drop_left, List.take_left, ↓reduceIte] at ih ⊢
    rw [ih fun x hx => h x (List.mem_cons_of_mem s hx)]

theorem readStarts_save {l : List Nat} {k : Nat} (hk : l.length = k) (h : ∀ x ∈ l, x < 2 ^ 64) (rest : List UInt8) :
    readStarts k (saveStarts l ++ rest) = some (l, rest) := by
  subst hk
  induction l with
  | nil => rfl
  | cons x l ih =>
    simp only [saveStarts, List.flatMap_cons, List.append_assoc, List.length_cons, readStarts,
      readLE_leBytes 8 (h x List.mem_cons_self)] at ih ⊢
    rw [ih fun y hy => h y (List.mem_cons_of_mem x hy)]

theorem readParts_save {l : List HRPDACImg.Img} (h : ∀ p ∈ l, HRPDACImg.WF p) (rest : List UInt8) :
    readParts l.length (saveParts l ++ rest) = some (l, rest) := by
  induction l with
  | nil => rfl
  | cons p l ih =>
    simp only [saveParts, List.flatMap_cons, List.append_assoc, List.length_cons, readParts,
      HRPDACImg.load_save p (h p List.mem_cons_self)] at ih ⊢
    rw [ih fun y hy => h y (List.mem_cons_of_mem p hy)]

structure WF (d : Img) : Prop where
  ml : d.maxlength < 2 ^ 32
  cs : d.cutSize < 2 ^ 64
  sq : d.stringsQty < 2 ^ 64
  np : d.parts.length < 2 ^ 32
  nsamples : d.samples.length = d.parts.length
  nstarts : d.starts.length = d.parts.length
  samples : ∀ s ∈ d.samples, s.length < 2 ^ 32
  starts : ∀ x ∈ d.starts, x < 2 ^ 64
  parts : ∀ p ∈ d.parts, HRPDACImg.WF p

/-- **`load (save d ++ rest) = (d, rest)`** for a blocks dictionary, every part a whole HASHRPDAC image. -/
theorem load_save (d : Img) (wf : WF d) (rest : List UInt8) : load (save d ++ rest) = some (d, rest) := by
  simp only [load, save, List.append_assoc, readLE_leBytes 4 (show 125 < _ by decide), readLE_leBytes 4 wf.ml,
    readLE_leBytes 8 wf.cs, readLE_leBytes 8 wf.sq, readLE_leBytes 4 wf.np, readSamples_save wf.nsamples wf.samples,
    readStarts_save wf.nstarts wf.starts, readParts_save wf.parts, ne_eq, not_true_eq_false, ↓reduceIte]

end CSD.BlocksImg
