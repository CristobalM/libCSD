import CSD.Model.PFC

/-! Byte strings: `nulFree`, the common prefix length `lcp`, the byte order `scmp` (the model of `strcmp`). -/
namespace CSD.PFC

/-- A string without NUL bytes (what a C string can hold). -/
def nulFree (s : Str) : Prop := ∀ c ∈ s, c ≠ 0

theorem nulFree_of_all {s : Str} (h : s.all validByte = true) : nulFree s := by
  intro c hc e
  have := List.all_eq_true.mp h c hc
  subst e
  simp [validByte] at this

theorem nulFree_of_validStr {s : Str} (h : validStr s = true) : nulFree s :=
  nulFree_of_all (Bool.and_eq_true_iff.mp h).2

theorem nulFree_cons {c : UInt8} {s : Str} : nulFree (c :: s) ↔ c ≠ 0 ∧ nulFree s :=
  List.forall_mem_cons

theorem nulFree_drop {s : Str} (h : nulFree s) (k : Nat) : nulFree (s.drop k) :=
  fun c hc => h c (List.mem_of_mem_drop hc)

theorem nulFree_take {s : Str} (h : nulFree s) (k : Nat) : nulFree (s.take k) :=
  fun c hc => h c (List.mem_of_mem_take hc)

end CSD.PFC

namespace CSD
open CSD.PFC

-- `simp [lcp]` is slow: at every `lcp a b` it tries to discharge the side condition of the catch-all equation.
theorem lcp_cons_self (x : UInt8) (as bs : Str) : lcp (x :: as) (x :: bs) = lcp as bs + 1 :=
  if_pos rfl

theorem lcp_cons_ne {x y : UInt8} (h : x ≠ y) (as bs : Str) : lcp (x :: as) (y :: bs) = 0 :=
  if_neg h

theorem lcp_le_left (a b : Str) : lcp a b ≤ a.length := by
  fun_induction lcp a b with
  | case1 a as bs ih => exact Nat.succ_le_succ ih
  | case2 => exact Nat.zero_le _
  | case3 => exact Nat.zero_le _

theorem lcp_comm : ∀ a b : Str, lcp a b = lcp b a
  | [], [] => rfl
  | [], _ :: _ => rfl
  | _ :: _, [] => rfl
  | x :: as, y :: bs => by
    by_cases hxy : x = y
    · subst hxy
      rw [lcp_cons_self, lcp_cons_self, lcp_comm as bs]
    · rw [lcp_cons_ne hxy, lcp_cons_ne (Ne.symm hxy)]

theorem lcp_le_right (a b : Str) : lcp a b ≤ b.length := lcp_comm a b ▸ lcp_le_left b a

theorem take_lcp_eq : ∀ a b : Str, a.take (lcp a b) = b.take (lcp a b) := by
  intro a b
  fun_induction lcp a b with
  | case1 a as bs ih => simp only [List.take_succ_cons, ih]
  | case2 => rfl
  | case3 => rfl

theorem take_lcp_append_drop (a b : Str) : a.take (lcp a b) ++ b.drop (lcp a b) = b := by
  rw [take_lcp_eq, List.take_append_drop]

theorem le_lcp_of_take_eq : ∀ (a b : Str) (k : Nat), k ≤ a.length → k ≤ b.length →
    a.take k = b.take k → k ≤ lcp a b := by
  intro a b k
  induction k generalizing a b with
  | zero => exact fun _ _ _ => Nat.zero_le _
  | succ k ih =>
    intro ha hb he
    cases a with
    | nil => exact absurd ha (Nat.not_succ_le_zero k)
    | cons x as =>
      cases b with
      | nil => exact absurd hb (Nat.not_succ_le_zero k)
      | cons y bs =>
        obtain ⟨rfl, ht⟩ := List.cons.inj he
        rw [lcp_cons_self]
        exact Nat.succ_le_succ (ih as bs (Nat.le_of_succ_le_succ ha) (Nat.le_of_succ_le_succ hb) ht)

theorem lcp_trans_ge (a b c : Str) : min (lcp a b) (lcp a c) ≤ lcp b c := by
  -- `b` and `c` agree with `a`, hence with each other, on the first `min …` bytes
  have hc := congrArg (List.take (min (lcp a b) (lcp a c))) (take_lcp_eq a b)
  have hq := congrArg (List.take (min (lcp a b) (lcp a c))) (take_lcp_eq a c)
  rw [List.take_take, List.take_take, Nat.min_eq_left (Nat.min_le_left _ _)] at hc
  rw [List.take_take, List.take_take, Nat.min_eq_left (Nat.min_le_right _ _)] at hq
  exact le_lcp_of_take_eq b c _ (Nat.le_trans (Nat.min_le_left _ _) (lcp_le_right a b))
    (Nat.le_trans (Nat.min_le_right _ _) (lcp_le_right a c)) (hc.symm.trans hq)

theorem lcp_self (a : Str) : lcp a a = a.length :=
  Nat.le_antisymm (lcp_le_left a a) (le_lcp_of_take_eq a a _ (Nat.le_refl _) (Nat.le_refl _) rfl)

theorem lcp_succ_le {a b : Str} {k : Nat} :
    k + 1 ≤ lcp a b → ∃ x as bs, a = x :: as ∧ b = x :: bs ∧ k ≤ lcp as bs := by
  fun_induction lcp a b with
  | case1 as x bs => exact fun h => ⟨x, as, bs, rfl, rfl, Nat.le_of_succ_le_succ h⟩
  | case2 => exact fun h => absurd h (Nat.not_succ_le_zero k)
  | case3 => exact fun h => absurd h (Nat.not_succ_le_zero k)

theorem lcp_add_drop (a b : Str) (k : Nat) : k ≤ lcp a b → lcp a b = k + lcp (a.drop k) (b.drop k) := by
  induction k generalizing a b with
  | zero => exact fun _ => (Nat.zero_add _).symm
  | succ k ih =>
    intro h
    obtain ⟨x, as, bs, rfl, rfl, hk⟩ := lcp_succ_le h
    rw [lcp_cons_self, ih as bs hk, Nat.add_right_comm]
    rfl

theorem lcp_drop_zero (a b : Str) : lcp (a.drop (lcp a b)) (b.drop (lcp a b)) = 0 :=
  Nat.add_left_cancel ((lcp_add_drop a b (lcp a b) (Nat.le_refl _)).symm.trans (Nat.add_zero _).symm)

theorem toNat_ne {a b : UInt8} (h : a ≠ b) : a.toNat ≠ b.toNat := fun e => h (UInt8.toNat_inj.mp e)

theorem toNat_pos_of_ne_zero {c : UInt8} (h : c ≠ 0) : 0 < c.toNat := Nat.pos_of_ne_zero (toNat_ne h)

theorem scmp_cons_self (x : UInt8) (as bs : Str) : scmp (x :: as) (x :: bs) = scmp as bs :=
  if_pos rfl

theorem scmp_cons_ne {x y : UInt8} (h : x ≠ y) (as bs : Str) :
    scmp (x :: as) (y :: bs) = (x.toNat : Int) - (y.toNat : Int) :=
  if_neg h

theorem scmp_self : ∀ a : Str, scmp a a = 0
  | [] => rfl
  | x :: as => (scmp_cons_self x as as).trans (scmp_self as)

theorem scmp_append_left : ∀ (s x y : Str), scmp (s ++ x) (s ++ y) = scmp x y
  | [], _, _ => rfl
  | a :: s, x, y => (scmp_cons_self a (s ++ x) (s ++ y)).trans (scmp_append_left s x y)

theorem scmp_irrefl_lt (a : Str) : ¬ scmp a a < 0 := by rw [scmp_self]; omega

theorem ne_of_scmp_lt {a b : Str} (h : scmp a b < 0) : a ≠ b := fun e => scmp_irrefl_lt b (e ▸ h)

theorem scmp_eq_zero {a b : Str} (ha : nulFree a) (hb : nulFree b) : scmp a b = 0 ↔ a = b := by
  induction a generalizing b with
  | nil =>
    cases b with
    | nil => simp [scmp]
    | cons y bs =>
      have := toNat_pos_of_ne_zero (nulFree_cons.mp hb).1
      simp [scmp]; omega
  | cons x as ih =>
    cases b with
    | nil =>
      have := toNat_pos_of_ne_zero (nulFree_cons.mp ha).1
      simp [scmp]; omega
    | cons y bs =>
      unfold scmp
      by_cases hxy : x = y
      · subst hxy
        simp [ih (nulFree_cons.mp ha).2 (nulFree_cons.mp hb).2]
      · have := toNat_ne hxy
        simp [hxy]; omega

theorem scmp_antisymm : ∀ a b : Str, scmp b a = - scmp a b
  | [], [] => rfl
  | [], _ :: _ => (Int.neg_neg _).symm
  | _ :: _, [] => rfl
  | x :: as, y :: bs => by
    by_cases hxy : x = y
    · subst hxy
      rw [scmp_cons_self, scmp_cons_self, scmp_antisymm as bs]
    · rw [scmp_cons_ne hxy, scmp_cons_ne (Ne.symm hxy), Int.neg_sub]

theorem scmp_lt_iff_gt (a b : Str) : scmp a b < 0 ↔ scmp b a > 0 := by
  rw [scmp_antisymm a b]; omega

theorem slt_true {a b : Str} : slt a b = true ↔ scmp a b < 0 := decide_eq_true_iff

theorem slt_false_of_gt {a b : Str} (h : scmp b a < 0) : slt a b = false :=
  decide_eq_false (Int.lt_asymm ((scmp_lt_iff_gt b a).mp h))

theorem slt_self (a : Str) : slt a a = false := decide_eq_false (scmp_irrefl_lt a)

theorem scmp_drop_lcp (a b : Str) (k : Nat) : k ≤ lcp a b → scmp a b = scmp (a.drop k) (b.drop k) := by
  induction k generalizing a b with
  | zero => exact fun _ => rfl
  | succ k ih =>
    intro h
    obtain ⟨x, as, bs, rfl, rfl, hk⟩ := lcp_succ_le h
    rw [scmp_cons_self]
    exact ih as bs hk

theorem scmp_nil_right (a : Str) : ¬ scmp a [] < 0 := by
  cases a with
  | nil => exact Int.lt_irrefl 0
  | cons x as => exact Int.not_lt.mpr (Int.natCast_nonneg _)

theorem scmp_cons_lt {x y : UInt8} {as bs : Str} :
    scmp (x :: as) (y :: bs) < 0 ↔ x.toNat < y.toNat ∨ x = y ∧ scmp as bs < 0 := by
  by_cases h : x = y
  · subst h
    rw [scmp_cons_self]
    exact ⟨fun hlt => Or.inr ⟨rfl, hlt⟩, fun hlt => hlt.elim (fun hlt => absurd hlt (Nat.lt_irrefl _)) And.right⟩
  · rw [scmp_cons_ne h]
    exact ⟨fun hlt => Or.inl (Int.ofNat_lt.mp (Int.lt_of_sub_neg hlt)),
      fun hlt => hlt.elim (fun hlt => Int.sub_neg_of_lt (Int.ofNat_lt.mpr hlt)) fun e => absurd e.1 h⟩

theorem scmp_trans_lt {a b c : Str} (h1 : scmp a b < 0) (h2 : scmp b c < 0) : scmp a c < 0 := by
  induction a generalizing b c with
  | nil =>
    cases c with
    | nil => exact absurd h2 (scmp_nil_right b)
    | cons z cs =>
      cases b with
      | nil => exact absurd h1 (Int.lt_irrefl 0)
      | cons y bs =>
        rw [scmp_cons_lt] at h2
        show -(z.toNat : Int) < 0
        have h1 : -(y.toNat : Int) < 0 := h1
        rcases h2 with h2 | ⟨rfl, _⟩
        · omega
        · exact h1
  | cons x as ih =>
    cases b with
    | nil => exact absurd h1 (scmp_nil_right _)
    | cons y bs =>
      cases c with
      | nil => exact absurd h2 (scmp_nil_right _)
      | cons z cs =>
        rw [scmp_cons_lt] at h1 h2 ⊢
        rcases h1 with h1 | ⟨rfl, h1⟩
        · rcases h2 with h2 | ⟨rfl, h2⟩
          · exact Or.inl (Nat.lt_trans h1 h2)
          · exact Or.inl h1
        · rcases h2 with h2 | ⟨rfl, h2⟩
          · exact Or.inl h2
          · exact Or.inr ⟨rfl, ih h1 h2⟩

theorem scmp_mono {s t q : Str} (hst : scmp s t < 0) : (scmp t q < 0 → scmp s q < 0) ∧ (scmp s q > 0 → scmp t q > 0) :=
  ⟨scmp_trans_lt hst, fun h => (scmp_lt_iff_gt q t).mp (scmp_trans_lt ((scmp_lt_iff_gt q s).mpr h) hst)⟩

theorem isPrefix_eq_isPrefixOf : ∀ (p s : Str), isPrefix p s = p.isPrefixOf s
  | [], _ => rfl
  | _ :: _, [] => rfl
  | x :: p, y :: s => by rw [isPrefix, List.isPrefixOf, isPrefix_eq_isPrefixOf p s]

/-- The two shortcuts of the front-coded scans (`p` the previous string, `c` the next, `q` the query): `c` shares more
with `p` than `q` does — no comparison needed; less — the scan is over. -/
theorem lcp_of_lcp_gt (p c q : Str) : lcp p q < lcp p c → lcp c q = lcp p q ∧ scmp c q = scmp p q := by
  fun_induction lcp p c generalizing q with
  | case1 ps x cs ih =>
    cases q with
    | nil => exact fun _ => ⟨rfl, rfl⟩
    | cons z qs =>
      by_cases hxz : x = z
      · subst hxz
        rw [lcp_cons_self, lcp_cons_self, scmp_cons_self, scmp_cons_self]
        intro h
        have := ih qs (Nat.lt_of_succ_lt_succ h)
        exact ⟨congrArg (· + 1) this.1, this.2⟩
      · rw [lcp_cons_ne hxz, lcp_cons_ne hxz, scmp_cons_ne hxz, scmp_cons_ne hxz]
        exact fun _ => ⟨rfl, rfl⟩
  | case2 => exact fun h => absurd h (Nat.not_lt_zero _)
  | case3 => exact fun h => absurd h (Nat.not_lt_zero _)

theorem gt_of_lcp_lt (p c q : Str) (h : lcp p c < lcp p q) (h2 : scmp p c < 0) : scmp q c < 0 := by
  rw [(lcp_of_lcp_gt p q c h).2]; exact h2

end CSD
