import CSD.Lemmas.PFCScan
import CSD.Lemmas.PFCBucket
import CSD.Lemmas.BinSearch

/-! `StringDictionaryPFC::extract` and `locate` on a built dictionary are the specification's; `GoodBucket` is what
`locateBucket` answers. The in-bucket scan is `PFCScan`'s. -/
namespace CSD.PFC
open CSD

/-- **Extraction is exact**: for every ID in `[1, n]` the model of `StringDictionaryPFC::extract` on the built
dictionary returns the string of that rank, every read inside the text. -/
theorem extract_build (b0 : Nat) (S : List Str) (hS : ∀ s ∈ S, nulFree s)
    (i : Nat) (h1 : 1 ≤ i) (h2 : i ≤ S.length) :
    extract (build b0 S) i = some (S[i - 1]?) := by
  have hi : i - 1 < S.length := Nat.sub_one_lt_of_le h1 h2
  unfold extract
  rw [build_elements, build_bucketsize, if_pos ⟨h1, h2⟩]
  have hpos : (i - 1) % clamp b0 < clamp b0 := Nat.mod_lt _ (clamp_pos b0)
  have hdm : (1 + (i - 1) / clamp b0 - 1) * clamp b0 + (i - 1) % clamp b0 = i - 1 := by
    rw [Nat.add_sub_cancel_left, Nat.mul_comm]; exact Nat.div_add_mod _ _
  generalize (i - 1) / clamp b0 = k at hdm ⊢
  generalize (i - 1) % clamp b0 = pos at hdm hpos ⊢
  have hk1 : 1 ≤ 1 + k := Nat.le_add_right 1 k
  have hk2 : 1 + k ≤ (build b0 S).buckets :=
    (idx_lt_iff b0 S hk1).mp (Nat.lt_of_le_of_lt (Nat.le_add_right _ pos) (hdm ▸ hi))
  obtain ⟨L, rest, hchunk, hh, _, _, hLn, _⟩ := bucket_facts b0 S hS (1 + k) hk1 hk2
  obtain ⟨p, hp, hr⟩ := hdrOf_eq_some hh
  have hget : (hd b0 S (1 + k) :: L)[pos]? = some S[i - 1] := by
    rw [← hchunk, bucketOf_getElem? _ _ _ _ hpos, hdm, List.getElem?_eq_getElem hi]
  have hdec := decodeSteps_take pos L (hd b0 S (1 + k)) rest hLn (Nat.le_of_lt_succ (List.getElem?_eq_some_iff.mp hget).1)
  rw [lastOf_take _ _ _ _ hget] at hdec
  simp only [hp, hr, hdec]
  rw [List.getElem?_eq_getElem hi]

theorem extract_bad_id (b0 : Nat) (S : List Str) (i : Nat) (h : i = 0 ∨ i > S.length) :
    extract (build b0 S) i = some none := by
  unfold extract
  rw [build_elements, if_neg fun ⟨h1, h2⟩ => h.elim (fun e => Nat.lt_irrefl 0 (e ▸ h1)) (Nat.not_lt.mpr h2)]

section
variable (b0 : Nat) (S : List Str) (q : Str)

/-- `header k`: the query is the header of bucket `k`; `candidate k`: bucket `k` is the last whose header is below
the query (0 if none is). -/
def GoodBucket : BucketRes → Prop
  | .header k => 1 ≤ k ∧ (k - 1) * clamp b0 < S.length ∧ S[(k - 1) * clamp b0]? = some q
  | .candidate k => (k = 0 ∨ (k - 1) * clamp b0 < S.length) ∧
      (∀ j, 1 ≤ j → j ≤ k → ∀ h, S[(j - 1) * clamp b0]? = some h → scmp h q < 0) ∧
      (∀ j, k < j → ∀ h, S[(j - 1) * clamp b0]? = some h → scmp h q > 0)

def bucketRes : Search.Res → BucketRes
  | .found _ _ c => .header c
  | .notFound _ _ c v => .candidate (if v < 0 then c else c - 1)

theorem locateBucketLoop_eq (d : T) (q : Str) (fuel l r c : Nat) (v : Int) :
    locateBucketLoop d q fuel l r c v =
      (Search.first (fun k => (hdrOf d k).map fun x => scmp x.1 q) fuel l r c v).map bucketRes := by
  induction fuel generalizing l r c v with
  | zero => rfl
  | succ fuel ih =>
    unfold locateBucketLoop Search.first
    by_cases hle : l ≤ r
    · rw [if_pos hle, if_pos hle, hdrOf]
      dsimp only
      cases bucketPtr d ((l + r) / 2) with
      | none => rfl
      | some p =>
        dsimp only
        cases readCStr p with
        | none => rfl
        | some x =>
          simp only [ih, Option.map_some, apply_ite (Option.map bucketRes)]
          rfl
    · rw [if_neg hle, if_neg hle]
      rfl

/-- For any accessor `cmp` that reads the headers, so that RPFC's `locateBucket` is covered as well. -/
theorem bucketSearch_spec (hS : ∀ s ∈ S, nulFree s) (hq : nulFree q) (hsort : SortedLt S)
    {cmp : Nat → Option Int}
    (hcmp : ∀ k, 1 ≤ k → k ≤ (build b0 S).buckets → cmp k = some (scmp (hd b0 S k) q)) :
    ∀ (fuel left right center : Nat) (v : Int),
      1 ≤ left → (right = 0 ∨ (right - 1) * clamp b0 < S.length) → left ≤ right + 1 → right + 1 - left ≤ fuel →
      (∀ j, 1 ≤ j → j < left → ∀ h, S[(j - 1) * clamp b0]? = some h → scmp h q < 0) →
      (∀ j, right < j → ∀ h, S[(j - 1) * clamp b0]? = some h → scmp h q > 0) →
      (right < left → (if v < 0 then center else center - 1) = right) →
      ∃ res, (Search.first cmp fuel left right center v).map bucketRes = some res ∧ GoodBucket b0 S q res := by
  intro fuel left right center v h1 hr _ hfuel hlo hhi hcons
  have hrn : right ≤ (build b0 S).buckets := (Nat.eq_zero_or_pos right).elim (fun e => e ▸ Nat.zero_le _)
    fun e => (idx_lt_iff b0 S e).mp (hr.resolve_left (Nat.ne_of_gt e))
  have m : RPDAC.Mono (build b0 S).buckets (fun k => scmp (hd b0 S k) q) :=
    .of_pairs fun a b h1 hab hb => scmp_mono (hd_lt b0 S hsort a b h1 hab hb)
  obtain ⟨res, hres, hgood, -⟩ := Search.first_spec m hcmp fuel left right center v
    ⟨h1, hrn, fun j hj1 hjl hjn => hlo j hj1 hjl _ ((getElem?_hd b0 S hj1).mpr ⟨hjn, rfl⟩),
      fun j hj hjn => hhi j hj _ ((getElem?_hd b0 S (Nat.zero_lt_of_lt hj)).mpr ⟨hjn, rfl⟩)⟩ hfuel hcons
  refine ⟨_, by rw [hres]; rfl, ?_⟩
  cases res with
  | found l r c =>
    obtain ⟨b, hlc, hcr, h0⟩ := hgood
    have hc1 : 1 ≤ c := Nat.le_trans b.one_le hlc
    have hcn : c ≤ (build b0 S).buckets := Nat.le_trans hcr b.le_n
    have hget := (getElem?_hd b0 S hc1).mpr ⟨hcn, (scmp_eq_zero (hS _ (hd_mem b0 S hc1 hcn)) hq).mp h0⟩
    exact ⟨hc1, (idx_lt_iff b0 S hc1).mpr hcn, hget⟩
  | notFound l r c v =>
    obtain ⟨b, hrl, hv⟩ := hgood
    show GoodBucket b0 S q (.candidate _)
    rw [hv]
    refine ⟨(Nat.eq_zero_or_pos r).imp id fun e => (idx_lt_iff b0 S e).mpr b.le_n, ?_, ?_⟩
    · intro j hj1 hjr h hh
      obtain ⟨hjn, rfl⟩ := (getElem?_hd b0 S hj1).mp hh
      exact b.below j hj1 (Nat.lt_of_le_of_lt hjr hrl) hjn
    · intro j hj h hh
      obtain ⟨hjn, rfl⟩ := (getElem?_hd b0 S (Nat.zero_lt_of_lt hj)).mp hh
      exact b.above j hj hjn

theorem locateBucketLoop_spec (hS : ∀ s ∈ S, nulFree s) (hq : nulFree q) (hsort : SortedLt S) :
    ∀ (fuel left right center : Nat) (cmp : Int),
      1 ≤ left → (right = 0 ∨ (right - 1) * clamp b0 < S.length) → left ≤ right + 1 → right + 1 - left ≤ fuel →
      (∀ j, 1 ≤ j → j < left → ∀ h, S[(j - 1) * clamp b0]? = some h → scmp h q < 0) →
      (∀ j, right < j → ∀ h, S[(j - 1) * clamp b0]? = some h → scmp h q > 0) →
      (right < left → (if cmp < 0 then center else center - 1) = right) →
      ∃ res, locateBucketLoop (build b0 S) q fuel left right center cmp = some res ∧ GoodBucket b0 S q res := by
  intro fuel left right center cmp
  rw [locateBucketLoop_eq]
  refine bucketSearch_spec b0 S q hS hq hsort (fun k h1 h2 => ?_) fuel left right center cmp
  obtain ⟨L, rest, _, h⟩ := hdrOf_build b0 S hS k h1 h2
  rw [h]; rfl

theorem locateBucket_build (hS : ∀ s ∈ S, nulFree s) (hq : nulFree q) (hsort : SortedLt S) :
    ∃ res, locateBucket (build b0 S) q = some res ∧ GoodBucket b0 S q res :=
  -- the initial call: `[1, buckets]`, nothing below 1 or above `buckets`; the made-up last probe `(0, 0)` has to name
  -- `right` only when `buckets = 0`
  locateBucketLoop_spec b0 S q hS hq hsort _ 1 _ 0 0 (Nat.le_refl 1)
    ((Nat.eq_zero_or_pos (build b0 S).buckets).imp id fun h => bucket_idx_lt b0 S _ h (Nat.le_refl _))
    (Nat.le_add_left 1 _) (Nat.sub_le _ _) (fun _ h1 h2 => absurd h1 (Nat.not_le.mpr h2))
    (fun _ hj _ hx => absurd ((getElem?_hd b0 S (Nat.zero_lt_of_lt hj)).mp hx).1 (Nat.not_le.mpr hj))
    (fun h => (if_neg (Int.lt_irrefl 0)).trans (Nat.lt_one_iff.mp h).symm)

end

section
variable {b0 : Nat} {S : List Str} {q : Str} (hsort : SortedLt S)
include hsort

theorem goodBucket_header {k : Nat} (h : GoodBucket b0 S q (.header k)) :
    Spec.locate S q = (k - 1) * clamp b0 + 1 := by
  obtain ⟨_, hk, hkq⟩ := h
  rw [List.getElem?_eq_getElem hk] at hkq
  rw [← Option.some.inj hkq]
  exact Spec.locate_getElem hsort _ hk

theorem goodBucket_zero (h : GoodBucket b0 S q (.candidate 0)) : Spec.locate S q = 0 := by
  have := hsort.not_mem_drop (a := 0) (q := q) fun ha =>
    (scmp_lt_iff_gt _ _).mpr (h.2.2 1 Nat.zero_lt_one _ (by simp [List.getElem?_eq_getElem ha]))
  rw [List.drop_zero] at this
  exact Spec.locate_not_mem this

theorem goodBucket_candidate {k : Nat} (hk1 : 1 ≤ k) (h : GoodBucket b0 S q (.candidate k)) :
    k ≤ (build b0 S).buckets ∧ ∀ L, bucketOf (clamp b0) S k = hd b0 S k :: L →
      Spec.locate S q = foundAt q ((k - 1) * clamp b0 + 1) L := by
  obtain ⟨hkb, hlo, hhi⟩ := h
  have hk : (k - 1) * clamp b0 < S.length := hkb.resolve_left (Nat.ne_of_gt hk1)
  have hk2 := (idx_lt_iff b0 S hk1).mp hk
  refine ⟨hk2, fun L hchunk => ?_⟩
  have hhq : scmp (hd b0 S k) q < 0 := hlo k hk1 (Nat.le_refl _) _ ((getElem?_hd b0 S hk1).mpr ⟨hk2, rfl⟩)
  have e : (k + 1 - 1) * clamp b0 = (k - 1) * clamp b0 + clamp b0 := by
    rw [Nat.add_sub_cancel, ← Nat.succ_mul, Nat.succ_eq_add_one, Nat.sub_add_cancel hk1]
  rw [Spec.locate_window ((k - 1) * clamp b0) (clamp b0) (Nat.le_of_lt hk)
    (hsort.not_mem_take hk (by rw [← hd_get b0 S k hk1 hk2]; exact hhq))
    (hsort.not_mem_drop fun ha => (scmp_lt_iff_gt _ _).mpr
      (hhi (k + 1) (Nat.lt_succ_self k) _ (by rw [e]; exact List.getElem?_eq_getElem ha)))]
  exact (congrArg (foundAt q _) hchunk).trans (foundAt_cons_ne (ne_of_scmp_lt hhq) _ _)

end

/-- Of the model, for every input: on the empty dictionary its search starts on the empty interval and answers
`candidate 0`. -/
theorem locate_build_any (b0 : Nat) (S : List Str) (q : Str)
    (hS : ∀ s ∈ S, nulFree s) (hq : nulFree q) (hsort : SortedLt S) :
    locate (build b0 S) q = some (Spec.locate S q) := by
  obtain ⟨res, hres, hgood⟩ := locateBucket_build b0 S q hS hq hsort
  unfold locate
  rw [hres]
  cases res with
  | header k => simp only [build_bucketsize, goodBucket_header hsort hgood]
  | candidate k =>
    cases k with
    | zero => rw [goodBucket_zero hsort hgood]; rfl
    | succ k =>
      have hk1 : 1 ≤ k + 1 := Nat.le_add_left 1 k
      obtain ⟨hk2, hspec⟩ := goodBucket_candidate hsort hk1 hgood
      obtain ⟨L, rest, hchunk, hh, hsorted, hhn, hLn, hsc⟩ := bucket_facts b0 S hS (k + 1) hk1 hk2
      obtain ⟨p, hp, hr⟩ := hdrOf_eq_some hh
      unfold scanneableOf at hsc
      simp only [hp, hr]
      rw [hsc, hspec L hchunk, build_bucketsize]
      cases L with
      | nil => rfl
      | cons c L' =>
        obtain ⟨hc, hL'⟩ := List.forall_mem_cons.mp hLn
        have hgt1 : 1 + (c :: L').length > 1 := Nat.lt_add_of_pos_right (Nat.succ_pos _)
        simp only [hgt1, ↓reduceIte, encTail, List.append_assoc]
        rw [decodeNext_encInternal _ c hc]
        simp only [cmpFrom_zero]
        by_cases h0 : scmp c q = 0
        · rw [if_neg (not_not_intro h0), (scmp_eq_zero hc hq).mp h0, foundAt_cons_self]
        · have hsc' : 1 + (c :: L').length = 2 + L'.length := (Nat.add_comm 1 _).trans (Nat.add_comm L'.length 2)
          have hfuel : L'.length ≤ 1 + (c :: L').length := Nat.le_trans (Nat.le_succ _) (Nat.le_add_left _ 1)
          rw [if_pos h0, scanLoop_foundAt q L' c 2 _ _ rest _ (chain_of_sorted _ _ (hsorted hsort)).2 hL'
            (fun s hs => (scmp_eq_zero (hL' s hs) hq).mp) hsc' rfl, List.take_of_length_le hfuel,
            foundAt_cons_ne (fun e : c = q => h0 (by rw [e, scmp_self])), Nat.add_assoc, foundAt_add]
          -- `locate`'s `| some 0 | some j` at `j = foundAt q 2 L'` against the `if` of `foundAt_add`
          cases foundAt q 2 L' with
          | zero => rfl
          | succ j => rfl

/-- **locate is exact**: on the dictionary built from a strictly sorted, NUL-free input the model of
`StringDictionaryPFC::locate` returns the 1-based rank of a member and 0 (`NORESULT`) for any other NUL-free query,
for every bucket size, never reading outside the text. -/
theorem locate_build (b0 : Nat) (S : List Str) (q : Str) (hne : S ≠ [])
    (hS : ∀ s ∈ S, nulFree s) (hq : nulFree q) (hsort : SortedLt S) :
    locate (build b0 S) q = some (Spec.locate S q) :=
  locate_build_any b0 S q hS hq hsort

end CSD.PFC
