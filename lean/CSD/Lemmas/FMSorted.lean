import CSD.Model.FM

/-! Lists strictly sorted by a key into symbol strings: suffix-array rows by suffix, dictionary members by symbols.
A downward-closed predicate holds exactly on the first `countP` elements (`filter_eq_take`, `sorted_pred_iff`), so
the elements below a pattern and those starting with it are counted by where they sit. -/
namespace CSD.FM

theorem countP_or_disjoint {α : Type} (p r : α → Bool) (hd : ∀ a, ¬ (p a = true ∧ r a = true)) :
    ∀ L : List α, L.countP (fun a => p a || r a) = L.countP p + L.countP r
  | [] => rfl
  | a :: L => by
    rw [List.countP_cons, List.countP_cons, List.countP_cons, countP_or_disjoint p r hd L]
    cases hp : p a
    · exact Nat.add_assoc _ _ _
    · rw [Bool.eq_false_iff.mpr fun h => hd a ⟨hp, h⟩]
      exact Nat.add_right_comm _ _ 1

def DownClosed (q : List Sym → Bool) : Prop := ∀ a b : List Sym, a < b → q b = true → q a = true

def ltP (P : List Sym) (s : List Sym) : Bool := decide (s < P)

def preP (P : List Sym) (s : List Sym) : Bool := P.isPrefixOf s

def hiP (P : List Sym) (s : List Sym) : Bool := ltP P s || preP P s

theorem lt_append_cases : ∀ (P a y : List Sym), a < P ++ y → a < P ∨ P <+: a
  | [], _, _, _ => Or.inr List.nil_prefix
  | p :: P, [], _, _ => Or.inl (List.nil_lt_cons _ _)
  | p :: P, x :: a, y, h => by
    simp only [List.cons_append, List.cons_lt_cons_iff] at h
    rcases h with h | ⟨rfl, h⟩
    · exact Or.inl (List.cons_lt_cons_iff.mpr (Or.inl h))
    · rcases lt_append_cases P a y h with h' | h'
      · exact Or.inl (List.cons_lt_cons_iff.mpr (Or.inr ⟨rfl, h'⟩))
      · exact Or.inr ((List.prefix_cons_inj x).mpr h')

theorem downClosed_ltP (P : List Sym) : DownClosed (ltP P) := fun a b hab hb => by
  simp only [ltP, decide_eq_true_eq] at hb ⊢
  exact List.lt_trans hab hb

theorem downClosed_hiP (P : List Sym) : DownClosed (hiP P) := fun a b hab hb => by
  simp only [hiP, ltP, preP, Bool.or_eq_true, decide_eq_true_eq, List.isPrefixOf_iff_prefix] at hb ⊢
  rcases hb with hb | ⟨y, rfl⟩
  · exact Or.inl (List.lt_trans hab hb)
  · exact lt_append_cases P a y hab

theorem not_ltP_of_preP {P s : List Sym} (h : preP P s = true) : ltP P s = false := by
  obtain ⟨y, rfl⟩ := List.isPrefixOf_iff_prefix.mp h
  exact decide_eq_false List.le_append_left

theorem countP_hiP {α : Type} (key : α → List Sym) (P : List Sym) (l : List α) :
    l.countP (fun a => hiP P (key a)) = l.countP (fun a => ltP P (key a)) + l.countP (fun a => preP P (key a)) :=
  countP_or_disjoint (fun a => ltP P (key a)) (fun a => preP P (key a))
    (fun _ ⟨h1, h2⟩ => Bool.false_ne_true ((not_ltP_of_preP h2).symm.trans h1)) l

theorem countP_ltP_add_preP_le {α : Type} (key : α → List Sym) (P : List Sym) (l : List α) :
    l.countP (fun a => ltP P (key a)) + l.countP (fun a => preP P (key a)) ≤ l.length := by
  rw [← countP_hiP]
  exact List.countP_le_length

section key
variable {α : Type} {key : α → List Sym} {l : List α}

theorem nodup_of_sorted_key (hs : l.Pairwise (fun a b => key a < key b)) : l.Nodup :=
  hs.imp fun {a b} h (e : a = b) => List.lt_irrefl _ (e ▸ h)

theorem filter_eq_take (hs : l.Pairwise (fun a b => key a < key b)) {q : List Sym → Bool} (hq : DownClosed q) :
    l.filter (fun a => q (key a)) = l.take (l.countP fun a => q (key a)) := by
  induction l with
  | nil => rfl
  | cons a l ih =>
    have ⟨ha, hl⟩ := List.pairwise_cons.mp hs
    by_cases hqa : q (key a) = true
    · simp [hqa, ih hl]
    · have hnone : ∀ b ∈ l, ¬ q (key b) = true := fun b hb h => hqa (hq _ _ (ha b hb) h)
      simp [hqa, List.filter_eq_nil_iff.mpr hnone, List.countP_eq_zero.mpr hnone]

theorem sorted_pred_iff (hs : l.Pairwise (fun a b => key a < key b)) {q : List Sym → Bool}
    (hq : DownClosed q) {j : Nat} (hj : j < l.length) :
    q (key l[j]) = true ↔ j < l.countP (fun a => q (key a)) := by
  induction l generalizing j with
  | nil => simp at hj
  | cons a l ih =>
    have ⟨ha, hl⟩ := List.pairwise_cons.mp hs
    rw [List.countP_cons]
    by_cases hqa : q (key a) = true
    · cases j with
      | zero => simp [hqa]
      | succ j => simp [hqa, ih hl (Nat.lt_of_succ_lt_succ hj)]
    · have hnone : ∀ b ∈ l, ¬ q (key b) = true := fun b hb h => hqa (hq _ _ (ha b hb) h)
      rw [List.countP_eq_zero.mpr hnone]
      cases j with
      | zero => simp [hqa]
      | succ j => simpa [hqa] using hnone _ (List.getElem_mem (Nat.lt_of_succ_lt_succ hj))

theorem sorted_countP_lt (hs : l.Pairwise (fun a b => key a < key b)) {j : Nat} (hj : j < l.length) :
    l.countP (fun a => ltP (key l[j]) (key a)) = j := by
  have hdc := downClosed_ltP (key l[j])
  have hlt := List.pairwise_iff_getElem.mp hs
  apply Nat.le_antisymm
  · apply Nat.le_of_not_lt
    rw [← sorted_pred_iff hs hdc hj]
    simp [ltP, List.lt_irrefl]
  · cases j with
    | zero => exact Nat.zero_le _
    | succ i =>
      apply (sorted_pred_iff hs hdc (Nat.lt_of_succ_lt hj)).mp
      simpa [ltP] using hlt i (i + 1) _ hj (Nat.lt_succ_self i)

theorem sorted_preP_iff (hs : l.Pairwise (fun a b => key a < key b)) {P : List Sym} {j : Nat}
    (hj : j < l.length) :
    preP P (key l[j]) = true ↔ l.countP (fun a => ltP P (key a)) ≤ j ∧
      j < l.countP (fun a => ltP P (key a)) + l.countP (fun a => preP P (key a)) := by
  -- `sorted_pred_iff` twice: the right side becomes `¬ ltP P _ ∧ hiP P _`
  rw [← countP_hiP, ← sorted_pred_iff hs (downClosed_hiP P) hj, ← Nat.not_lt,
    ← sorted_pred_iff hs (downClosed_ltP P) hj, hiP]
  cases h : preP P (key l[j])
  · simp
  · simp [not_ltP_of_preP h]

end key

theorem filterMap_ids {α : Type} (q : α → Bool) : ∀ (l : List (α × Nat)),
    l.filterMap (fun x => if q x.1 then some x.2 else none) = (l.filter (fun x => q x.1)).map (·.2)
  | [] => rfl
  | x :: l => by
    rw [List.filterMap_cons, List.filter_cons, filterMap_ids q l]
    cases q x.1 <;> rfl

theorem mem_ids_iff {α : Type} (q : α → Bool) (S : List α) (k id : Nat) :
    id ∈ (S.zipIdx k).filterMap (fun x => if q x.1 then some x.2 else none) ↔
      ∃ (i : Nat) (hi : i < S.length), id = k + i ∧ q S[i] = true := by
  rw [filterMap_ids, List.mem_map]
  constructor
  · rintro ⟨⟨s, j⟩, hm, rfl⟩
    obtain ⟨hm, hq⟩ := List.mem_filter.mp hm
    obtain ⟨i, rfl⟩ := Nat.exists_eq_add_of_le (List.mem_zipIdx hm).1
    obtain ⟨hi, he⟩ := List.getElem?_eq_some_iff.mp (List.mk_add_mem_zipIdx_iff_getElem?.mp hm)
    exact ⟨i, hi, rfl, he ▸ hq⟩
  · rintro ⟨i, hi, rfl, hq⟩
    exact ⟨(S[i], k + i), List.mem_filter.mpr
      ⟨List.mk_add_mem_zipIdx_iff_getElem?.mpr (List.getElem?_eq_getElem hi), hq⟩, rfl⟩

theorem sorted_ids {α : Type} (q : α → Bool) (S : List α) (k : Nat) :
    ((S.zipIdx k).filterMap (fun x => if q x.1 then some x.2 else none)).Pairwise (· < ·) := by
  rw [filterMap_ids]
  have := (List.filter_sublist (p := fun x : α × Nat => q x.1) (l := S.zipIdx k)).map Prod.snd
  rw [List.zipIdx_map_snd] at this
  exact (List.pairwise_lt_range' 1).sublist this

theorem eq_of_sorted_same_mem {a b : List Nat} (ha : a.Pairwise (· < ·)) (hb : b.Pairwise (· < ·))
    (h : ∀ x, x ∈ a ↔ x ∈ b) : a = b :=
  List.Perm.eq_of_pairwise (le := (· < ·)) (fun _ _ _ _ h1 h2 => absurd h1 (Nat.lt_asymm h2)) ha hb
    ((List.perm_ext_iff_of_nodup (List.nodup_iff_pairwise_ne.mpr (ha.imp Nat.ne_of_lt))
      (List.nodup_iff_pairwise_ne.mpr (hb.imp Nat.ne_of_lt))).mpr h)

theorem ids_preP_eq_range {α : Type} (key : α → List Sym) (P : List Sym) (l : List α) (k : Nat)
    (hs : l.Pairwise (fun a b => key a < key b)) :
    (l.zipIdx k).filterMap (fun x => if preP P (key x.1) then some x.2 else none)
      = List.range' (k + l.countP (fun a => ltP P (key a))) (l.countP (fun a => preP P (key a))) := by
  refine eq_of_sorted_same_mem (sorted_ids (fun a => preP P (key a)) l k) (List.pairwise_lt_range' 1) fun id => ?_
  rw [mem_ids_iff (fun a => preP P (key a)), List.mem_range'_1]
  constructor
  · rintro ⟨i, hi, rfl, h⟩
    have ⟨h1, h2⟩ := (sorted_preP_iff hs hi).mp h
    exact ⟨Nat.add_le_add_left h1 k, Nat.add_assoc k _ _ ▸ Nat.add_lt_add_left h2 k⟩
  · rintro ⟨h1, h2⟩
    obtain ⟨m, rfl⟩ := Nat.exists_eq_add_of_le h1
    have hm := Nat.add_lt_add_left (Nat.lt_of_add_lt_add_left h2) (l.countP fun a => ltP P (key a))
    exact ⟨_, Nat.lt_of_lt_of_le hm (countP_ltP_add_preP_le key P l), Nat.add_assoc k _ m,
      (sorted_preP_iff hs _).mpr ⟨Nat.le_add_right _ m, hm⟩⟩

end CSD.FM
