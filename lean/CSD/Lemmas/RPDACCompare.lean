import CSD.Model.RPDAC
import CSD.Lemmas.RePair

/-! The nested comparisons of RPDAC are the flat comparison of the expansion. The rule routines `cmpRule`/`cmpRuleP`
and the loops `cmpSyms`/`cmpSymsP` differ only in a check between two comparisons and in what they return; with the
continuation explicit they unfold alike, so `cmpSym_cps` (any such rule routine) and `loop_cps` (any such loop)
serve the `strcmp` and the `strncmp` chain. -/
namespace CSD.RPDAC
open CSD CSD.RePair

/-- What a routine returns when it stops: on a difference, and when the pattern is exhausted. -/
structure Out (ρ : Type) where
  stop : Int → Nat → ρ
  done : Nat → ρ

def Out.pair : Out (Int × Nat) := ⟨fun c p => (c, p), fun p => (0, p)⟩
def Out.flagged : Out (Int × Nat × Bool) := ⟨fun c p => (c, p, false), fun p => (0, p, true)⟩
def Out.sign : Out Int := ⟨fun c _ => c, fun _ => 0⟩

/-- No check: `cmpRule`, `cmpSyms`. -/
def never : Nat → Option Bool := fun _ => some false

section
variable {ρ : Type} (o : Out ρ) (G : Nat → Option Bool) (buf : List Nat)

/-- Stop on a difference, else `k` at the new position. -/
def andThen (r : Option (Int × Nat)) (k : Nat → Option ρ) : Option ρ :=
  match r with
  | none => none
  | some (c, p) => if c ≠ 0 then some (o.stop c p) else k p

/-- The check between two comparisons: done at `p`, or on with `k`. -/
def gate (k : Nat → Option ρ) (p : Nat) : Option ρ :=
  match G p with
  | none => none
  | some true => some (o.done p)
  | some false => k p

/-- The flat comparison with the check after every terminal; `K` is what follows the last one. -/
def cmpK : List Nat → (Nat → Option ρ) → Nat → Option ρ
  | [], K, pos => K pos
  | s :: rest, K, pos => andThen o (cmpTerm buf s pos) (gate o G (cmpK rest K))

theorem cmpK_append : ∀ (a b : List Nat) (K : Nat → Option ρ) (pos : Nat),
    cmpK o G buf (a ++ b) K pos = cmpK o G buf a (cmpK o G buf b K) pos
  | [], _, _, _ => rfl
  | s :: a, b, K, pos =>
    congrArg (fun k => andThen o (cmpTerm buf s pos) (gate o G k)) (funext (cmpK_append a b K))

theorem cmpK_cons_ne {x y pos : Nat} (h : buf[pos]? = some y) (hne : x ≠ y) (l : List Nat) (K : Nat → Option ρ) :
    cmpK o G buf (x :: l) K pos = some (o.stop ((x : Int) - y) pos) := by
  have hd : (x : Int) - y ≠ 0 := fun e => hne (Int.natCast_inj.mp (Int.sub_eq_zero.mp e))
  simp only [cmpK, cmpTerm, h, andThen, if_pos hne, if_pos hd]

theorem cmpK_cons_eq {x pos : Nat} (h : buf[pos]? = some x) (l : List Nat) (K : Nat → Option ρ) :
    cmpK o G buf (x :: l) K pos = gate o G (cmpK o G buf l K) (pos + 1) := by
  simp only [cmpK, cmpTerm, h, andThen, ne_eq, not_true_eq_false, if_false]

/-- A check that stopped the inner pair stops again before `K`: it is made at the same position. -/
theorem andThen_gate_assoc (r : Option (Int × Nat)) (k : Nat → Option (Int × Nat)) (K : Nat → Option ρ) :
    andThen o (andThen Out.pair r (gate Out.pair G k)) (gate o G K) =
      andThen o r (gate o G fun p => andThen o (k p) (gate o G K)) := by
  cases r with
  | none => rfl
  | some cp =>
    obtain ⟨c, p⟩ := cp
    by_cases hc : c ≠ 0
    · simp only [andThen, if_pos hc, Out.pair]
    · simp only [andThen, if_neg hc]
      unfold gate
      cases h : G p with
      | none => rfl
      | some b =>
        cases b with
        | false => rfl
        | true => simp only [Out.pair, ne_eq, not_true_eq_false, if_false, h]

end

/-- Compare terminals one by one (what the nested rule comparison amounts to). -/
def cmpList (buf : List Nat) : List Nat → Nat → Option (Int × Nat)
  | [], pos => some (0, pos)
  | s :: rest, pos =>
    match cmpTerm buf s pos with
    | none => none
    | some (c, p) => if c ≠ 0 then some (c, p) else cmpList buf rest p

theorem cmpK_never (buf : List Nat) : ∀ (l : List Nat) (pos : Nat),
    cmpK Out.pair never buf l (fun p => some (0, p)) pos = cmpList buf l pos
  | [], _ => rfl
  | s :: rest, pos => congrArg (andThen Out.pair (cmpTerm buf s pos)) (funext (cmpK_never buf rest))

theorem andThen_pure (r : Option (Int × Nat)) : andThen Out.pair r (fun p => some (0, p)) = r := by
  cases r with
  | none => rfl
  | some cp =>
    obtain ⟨c, p⟩ := cp
    by_cases hc : c ≠ 0
    · simp only [andThen, if_pos hc, Out.pair]
    · rw [Decidable.not_not.mp hc]; rfl

section
variable (g : Grammar) (buf : List Nat)

/-- One symbol (a side of a rule, an element of the loop) under the rule routine `R`. -/
def cmpSym (R : Nat → Nat → Option (Int × Nat)) (s p : Nat) : Option (Int × Nat) :=
  if s ≥ g.terminals then R (s - g.terminals) p else cmpTerm buf s p

variable (hwf : g.wf = true) (G : Nat → Option Bool) (R : Nat → Nat → Nat → Option (Int × Nat))
  (hR : ∀ fuel rule pos, R (fuel + 1) rule pos =
    match g.rules[rule]? with
    | none => none
    | some (l, r) => andThen Out.pair (cmpSym g buf (R fuel) l pos) (gate Out.pair G (cmpSym g buf (R fuel) r)))
include hwf hR

/-- `R` is `cmpRule` with `G = never`, `cmpRuleP` with `G = atEnd buf` (`hR` by `rfl`). -/
theorem cmpSym_cps {ρ : Type} (o : Out ρ) : ∀ (fuel s : Nat), s < g.terminals + g.rules.length →
    s < g.terminals + fuel → ∀ (K : Nat → Option ρ) (pos : Nat),
      andThen o (cmpSym g buf (R fuel) s pos) (gate o G K) = cmpK o G buf (g.expandSym s) K pos := by
  intro fuel
  induction fuel with
  | zero =>
    intro s _ (hf : s < g.terminals) K pos
    rw [cmpSym, if_neg (Nat.not_le.mpr hf), expandSym_term g s hf]; rfl
  | succ fuel ih =>
    intro s hs hf K pos
    unfold cmpSym
    by_cases hge : s ≥ g.terminals
    · obtain ⟨k, rfl⟩ := Nat.exists_eq_add_of_le hge
      have hk : k < g.rules.length := Nat.lt_of_add_lt_add_left hs
      have hkf : k ≤ fuel := Nat.le_of_lt_succ (Nat.lt_of_add_lt_add_left hf)
      have hlt {x : Nat} (h : x < g.terminals + k) : x < g.terminals + g.rules.length ∧ x < g.terminals + fuel :=
        ⟨Nat.lt_trans h (Nat.add_lt_add_left hk _), Nat.lt_of_lt_of_le h (Nat.add_le_add_left hkf _)⟩
      have ⟨hl, hr⟩ := g.sides_lt hwf k hk
      rw [if_pos hge, Nat.add_sub_cancel_left, hR, List.getElem?_eq_getElem hk]
      simp only
      -- the left side is `ih` backwards; "right side, then `K`" behind it is `ih` under `andThen … (gate …)`
      rw [andThen_gate_assoc, expandSym_rule g hwf k hk, cmpK_append, ← ih _ (hlt hl).1 (hlt hl).2]
      exact congrArg (andThen o _) (congrArg (gate o G) (funext fun p => ih _ (hlt hr).1 (hlt hr).2 K p))
    · rw [if_neg hge, expandSym_term g s (Nat.lt_of_not_le hge)]; rfl

/-- `L` is `cmpSyms` or `cmpSymsP`, possibly with what the caller makes of its result. -/
theorem loop_cps {ρ : Type} (o : Out ρ) (K : Nat → Option ρ) (L : List Nat → Nat → Option ρ)
    (hnil : ∀ pos, L [] pos = K pos)
    (hcons : ∀ s rest pos, L (s :: rest) pos =
      andThen o (cmpSym g buf (R (g.rules.length + 1)) s pos) (gate o G (L rest))) :
    ∀ (syms : List Nat), (∀ s ∈ syms, s < g.terminals + g.rules.length) → ∀ pos,
      L syms pos = cmpK o G buf (g.expand syms) K pos := by
  intro syms
  induction syms with
  | nil => exact fun _ pos => hnil pos
  | cons s rest ih =>
    intro hv pos
    have ⟨hs, hv⟩ := List.forall_mem_cons.mp hv
    rw [hcons, funext (ih hv), cmpSym_cps g buf hwf G R hR o _ s hs (Nat.lt_succ_of_lt hs), ← cmpK_append]
    rfl

end

theorem cmpSym_cmpRule (g : Grammar) (hwf : g.wf = true) (buf : List Nat) (s : Nat)
    (hs : s < g.terminals + g.rules.length) (fuel : Nat) (hf : s < g.terminals + fuel) (pos : Nat) :
    cmpSym g buf (cmpRule g buf fuel) s pos = cmpList buf (g.expandSym s) pos := by
  rw [← cmpK_never, ← cmpSym_cps g buf hwf never (cmpRule g buf) (fun _ _ _ => rfl) Out.pair fuel s hs hf]
  exact (andThen_pure _).symm

/-! Nothing uses the next two: `RPDACStrcmp` goes through `loop_cps`, `HashRP` through `cmpSym_cmpRule`. -/

theorem cmpRule_eq (g : Grammar) (hwf : g.wf = true) (buf : List Nat) :
    ∀ (k : Nat), k < g.rules.length → ∀ fuel, k + 1 ≤ fuel → ∀ pos,
      cmpRule g buf fuel k pos = cmpList buf (g.expandSym (g.terminals + k)) pos := by
  intro k hk fuel hf pos
  rw [← cmpSym_cmpRule g hwf buf _ (Nat.add_lt_add_left hk _) fuel (Nat.add_lt_add_left hf _) pos, cmpSym,
    if_pos (Nat.le_add_right _ _), Nat.add_sub_cancel_left]

theorem cmpSyms_eq (g : Grammar) (hwf : g.wf = true) (buf : List Nat) :
    ∀ (syms : List Nat), (∀ s ∈ syms, s < g.terminals + g.rules.length) → ∀ pos,
      cmpSyms g buf syms pos = cmpList buf (g.expand syms) pos := by
  intro syms hv pos
  rw [← cmpK_never]
  exact loop_cps g buf hwf never (cmpRule g buf) (fun _ _ _ => rfl) Out.pair _ (cmpSyms g buf) (fun _ => rfl)
    (fun _ _ _ => rfl) syms hv pos

end CSD.RPDAC
