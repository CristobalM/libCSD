import CSD.Lemmas.BinSearch
import CSD.Lemmas.Sorted

/-! `strncmp(·, p, |p|)` as `pcmp`: monotone along `scmp`, zero exactly on the strings with the prefix; `along S g`:
a function of the member as a function of the ID. -/
namespace CSD.RPDAC
open CSD CSD.PFC

/-- `strncmp(s, p, |p|)`; the same function as the model's `PFC.ncmp`. -/
def pcmp (s p : Str) : Int := scmp (s.take p.length) p

theorem pcmp_cons_same (a : UInt8) (as bs : Str) : pcmp (a :: as) (a :: bs) = pcmp as bs :=
  scmp_cons_self a _ bs

theorem pcmp_cons_ne {a b : UInt8} (h : a ≠ b) (as bs : Str) :
    pcmp (a :: as) (b :: bs) = (a.toNat : Int) - b.toNat :=
  scmp_cons_ne h _ bs

theorem scmp_take_le (k : Nat) (a b : Str) : scmp a b < 0 → scmp (a.take k) (b.take k) ≤ 0 := by
  induction k generalizing a b with
  | zero => exact fun _ => Int.le_refl 0
  | succ k ih =>
    intro h
    cases a with
    | nil =>
      cases b with
      | nil => exact Int.le_refl 0
      | cons y bs => exact Int.neg_nonpos_of_nonneg (Int.natCast_nonneg _)
    | cons x as =>
      cases b with
      | nil => exact absurd h (scmp_nil_right _)
      | cons y bs =>
        rw [List.take_succ_cons, List.take_succ_cons]
        by_cases hxy : x = y
        · subst hxy
          rw [scmp_cons_self] at h ⊢
          exact ih as bs h
        · rw [scmp_cons_ne hxy] at h ⊢
          exact Int.le_of_lt h

theorem pcmp_mono {s t p : Str} (hs : nulFree s) (ht : nulFree t) (hst : scmp s t < 0) :
    (pcmp t p < 0 → pcmp s p < 0) ∧ (pcmp s p > 0 → pcmp t p > 0) := by
  unfold pcmp
  rcases Int.lt_or_eq_of_le (scmp_take_le p.length s t hst) with h | h
  · exact scmp_mono h
  · rw [(scmp_eq_zero (nulFree_take hs _) (nulFree_take ht _)).mp h]; exact ⟨id, id⟩

theorem isPrefix_take (p s : Str) : isPrefix p s = true ↔ s.take p.length = p := by
  rw [isPrefix_eq_isPrefixOf, List.isPrefixOf_iff_prefix, List.prefix_iff_eq_take, eq_comm]

theorem pcmp_zero_iff {s p : Str} (hs : nulFree s) (hp : nulFree p) : pcmp s p = 0 ↔ isPrefix p s = true := by
  unfold pcmp
  rw [scmp_eq_zero (nulFree_take hs _) hp, isPrefix_take]

def along (S : List Str) (g : Str → Int) (id : Nat) : Int := g (S.getD (id - 1) [])

theorem along_get (S : List Str) (g : Str → Int) {id : Nat} (h1 : 1 ≤ id) (h2 : id ≤ S.length) :
    along S g id = g (S[id - 1]'(by omega)) := by
  unfold along
  rw [List.getD_eq_getElem?_getD, List.getElem?_eq_getElem (Nat.sub_one_lt_of_le h1 h2)]
  rfl

theorem along_mono {S : List Str} (hS : ∀ s ∈ S, nulFree s) (hsort : SortedLt S) (g : Str → Int)
    (hg : ∀ {s t}, nulFree s → nulFree t → scmp s t < 0 → (g t < 0 → g s < 0) ∧ (g s > 0 → g t > 0)) :
    Mono S.length (along S g) :=
  .of_pairs fun a b h1 hab hb => by
    have hb1 : 1 ≤ b := Nat.le_trans h1 (Nat.le_of_lt hab)
    rw [along_get S g h1 (Nat.le_trans (Nat.le_of_lt hab) hb), along_get S g hb1 hb]
    exact hg (hS _ (List.getElem_mem _)) (hS _ (List.getElem_mem _))
      (hsort.getElem_lt (Nat.sub_lt_sub_right h1 hab) (Nat.sub_one_lt_of_le hb1 hb))

theorem pcmp_along_mono {S : List Str} (hS : ∀ s ∈ S, nulFree s) (hsort : SortedLt S) (p : Str) :
    Mono S.length (along S (pcmp · p)) :=
  along_mono hS hsort (pcmp · p) fun hs ht => pcmp_mono hs ht

theorem along_pcmp_eq_zero {S : List Str} (hS : ∀ s ∈ S, nulFree s) {p : Str} (hp : nulFree p) {i : Nat}
    (h : i < S.length) : along S (pcmp · p) (i + 1) = 0 ↔ isPrefix p S[i] = true := by
  rw [along_get S _ (Nat.le_add_left 1 i) h]
  exact pcmp_zero_iff (hS _ (List.getElem_mem _)) hp

end CSD.RPDAC
