import CSD.Model.Blocks
import CSD.Lemmas.ListIdx

/-! The blocks of `StringDictionaryHASHRPDACBlocks`: the cutting rule gives consecutive non-empty pieces of the
input; the parts vector once every task has run (`partsOf_complete`); the layout of such pieces (`pre`, `starts`,
`samples`). -/
namespace CSD.Blocks
open CSD

theorem cutLoop_flatten (c : Nat) (rest : List Str) : ∀ (s : Str) (acc : List Str) (sz : Nat),
    (cutLoop c (s :: rest) acc sz).flatten = acc.reverse ++ s :: rest := by
  induction rest with
  | nil => exact fun s acc sz => by simp [cutLoop]
  | cons r rest ih =>
    intro s acc sz
    unfold cutLoop
    dsimp only
    split
    · rw [List.flatten_cons, ih r [] 0, List.reverse_cons, List.append_assoc]
      rfl
    · rw [ih r (s :: acc), List.reverse_cons, List.append_assoc]
      rfl

theorem cut_flatten (c : Nat) (S : List Str) : (cut c S).flatten = S := by
  cases S with
  | nil => rfl
  | cons s rest => exact cutLoop_flatten c rest s [] 0

theorem cutLoop_nonempty (c : Nat) (l : List Str) :
    ∀ (acc : List Str) (sz : Nat), ∀ b ∈ cutLoop c l acc sz, b ≠ [] := by
  induction l with
  | nil => exact fun _ _ b hb => nomatch hb
  | cons s rest ih =>
    intro acc sz b hb
    unfold cutLoop at hb
    dsimp only at hb
    split at hb
    · rcases List.mem_cons.mp hb with rfl | e
      · exact fun h => List.cons_ne_nil s acc (List.reverse_eq_nil_iff.mp h)
      · exact ih [] 0 b e
    · exact ih (s :: acc) _ b hb

theorem cut_nonempty (c : Nat) (S : List Str) : ∀ b ∈ cut c S, b ≠ [] :=
  cutLoop_nonempty c S [] 0

theorem partsOf_complete {α : Type} (build : List Str → α) (blocks : List (List Str)) (ran : List Nat)
    (h : ∀ i, i < blocks.length → i ∈ ran) :
    partsOf build blocks ran = blocks.map (fun b => some (build b)) := by
  unfold partsOf
  apply List.ext_getElem
  · simp
  · intro i h1 h2
    simp only [List.getElem_map, List.getElem_zipIdx]
    have : i < blocks.length := by simpa using h1
    simp [h i this]

/-- Number of strings in the blocks before block `p`: `ListIdx.pre` at `Str`. Its lemmas that `rw` must find
under `Blocks.pre` are restated below; as a term `ListIdx.pre_add_le` applies as it is. -/
def pre (bs : List (List Str)) (p : Nat) : Nat := ((bs.take p).map List.length).sum

theorem pre_zero (bs : List (List Str)) : pre bs 0 = 0 := rfl

theorem pre_succ (bs : List (List Str)) (p : Nat) (hp : p < bs.length) :
    pre bs (p + 1) = pre bs p + bs[p].length :=
  ListIdx.pre_succ bs p hp

theorem pre_cons (b : List Str) (bs : List (List Str)) (p : Nat) :
    pre (b :: bs) (p + 1) = b.length + pre bs p :=
  rfl

theorem pre_length (bs : List (List Str)) : pre bs bs.length = bs.flatten.length := by
  rw [pre, List.take_length, List.length_flatten]

theorem pre_mono (bs : List (List Str)) : ∀ (j p : Nat), j ≤ p → p ≤ bs.length → pre bs j ≤ pre bs p :=
  ListIdx.pre_mono bs

theorem pre_add_length_le (bs : List (List Str)) (j p : Nat) (hjp : j < p) (hp : p ≤ bs.length) :
    pre bs j + (bs[j]'(Nat.lt_of_lt_of_le hjp hp)).length ≤ pre bs p :=
  pre_succ bs j (Nat.lt_of_lt_of_le hjp hp) ▸ pre_mono bs (j + 1) p hjp hp

theorem starts_getElem? (bs : List (List Str)) : ∀ (off p : Nat), p < bs.length →
    (starts off bs)[p]? = some (off + pre bs p) := by
  induction bs with
  | nil => exact fun _ _ h => absurd h (Nat.not_lt_zero _)
  | cons b bs ih =>
    intro off p h
    cases p with
    | zero =>
      rw [pre_zero]
      rfl
    | succ p =>
      rw [starts, List.getElem?_cons_succ, ih (off + b.length) p (Nat.lt_of_succ_lt_succ h), pre_cons, Nat.add_assoc]

theorem starts_length : ∀ (bs : List (List Str)) (off : Nat), (starts off bs).length = bs.length
  | [], _ => rfl
  | b :: bs, off => congrArg (· + 1) (starts_length bs (off + b.length))

theorem samples_eq_map (bs : List (List Str)) : (∀ b ∈ bs, b ≠ []) → samples bs = bs.map fun b => b.headD [] := by
  induction bs with
  | nil => exact fun _ => rfl
  | cons b bs ih =>
    intro hne
    cases b with
    | nil => exact absurd rfl (hne _ List.mem_cons_self)
    | cons s _ => exact congrArg (s :: ·) (ih fun b hb => hne b (List.mem_cons_of_mem _ hb))

theorem exists_block_of_id (bs : List (List Str)) (id : Nat) (h1 : 1 ≤ id) (h2 : id ≤ bs.flatten.length) :
    ∃ p, ∃ (hp : p < bs.length), ∃ c, 1 ≤ c ∧ c ≤ bs[p].length ∧ id = pre bs p + c := by
  have key : ∀ k, k ≤ bs.length → id ≤ pre bs k → ∃ p, ∃ (hp : p < bs.length), ∃ c,
      1 ≤ c ∧ c ≤ bs[p].length ∧ id = pre bs p + c := by
    intro k
    induction k with
    | zero => exact fun _ h => absurd (Nat.le_trans h1 (pre_zero bs ▸ h)) (Nat.not_succ_le_zero 0)
    | succ k ih =>
      intro hk h
      by_cases hle : id ≤ pre bs k
      · exact ih (Nat.le_of_succ_le hk) hle
      · rw [pre_succ bs k hk] at h
        have hlt := Nat.lt_of_not_le hle
        exact ⟨k, hk, id - pre bs k, Nat.sub_pos_of_lt hlt, Nat.sub_le_iff_le_add'.mpr h,
          (Nat.add_sub_cancel' (Nat.le_of_lt hlt)).symm⟩
  exact key bs.length (Nat.le_refl _) (pre_length bs ▸ h2)

theorem flatten_getElem? : ∀ (bs : List (List Str)) (p i : Nat) (hp : p < bs.length), i < bs[p].length →
    bs.flatten[pre bs p + i]? = bs[p][i]? :=
  ListIdx.flatten_getElem?

end CSD.Blocks
