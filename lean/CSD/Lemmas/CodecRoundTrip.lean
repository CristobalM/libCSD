import CSD.Lemmas.StatCoder
import CSD.Lemmas.ChunkDec

/-! The bytes of `encodeString`: the chunk table decodes them back; terminated strings get distinct bytes. -/
namespace CSD.StatCoder
open CSD.Codes CSD.ChunkDec

/-- The codeword table agrees with the code tree on the symbols of `w`. -/
def TableMatches (t : Tree) (cwOf : Nat → Nat × Nat) (w : List Nat) : Prop :=
  ∀ s, s ∈ w → encodeSym t s = some (cwb (cwOf s).1 (cwOf s).2)

theorem encode_eq_encBits (t : Tree) (cwOf : Nat → Nat × Nat) : ∀ (w : List Nat), TableMatches t cwOf w →
    encode t w = some (encBits cwOf w)
  | [], _ => rfl
  | s :: w, h => by
    rw [encode_cons, h s List.mem_cons_self, encode_eq_encBits t cwOf w fun x hx => h x (List.mem_cons_of_mem _ hx)]
    rfl

theorem encodeString_bits {t : Tree} {cwOf : Nat → Nat × Nat} (hb : ∀ s, (cwOf s).2 ≤ 32) {w : List Nat}
    (hm : TableMatches t cwOf w) {bytes : List Nat} (he : encodeString cwOf w 0 0 [] = some bytes) :
    ∃ enc pad, encode t w = some enc ∧ stream [] bytes = enc ++ List.replicate pad false := by
  obtain ⟨out, ho, pad, hbits⟩ := encodeString_spec cwOf hb w 0 0 [] (Nat.zero_lt_succ _) (clean_zero 0)
  rw [he] at ho
  cases ho
  exact ⟨_, pad, encode_eq_encBits t cwOf w hm, by rw [stream, hbits]; rfl⟩

/-- **Bytes written by `encodeString` are decoded back by the chunk table**, if the decoding returns, for any `w`
with no terminator before its last symbol. -/
theorem encodeString_then_decodeAll (t : Tree) (k : Nat) (table : Nat → Option Entry) (hT : TableOK t k table)
    (cwOf : Nat → Nat × Nat) (hb : ∀ s, (cwOf s).2 ≤ 32) (w : List Nat) (hm : TableMatches t cwOf w)
    (hnz : ∀ i, i + 1 < w.length → w[i]? ≠ some 0) (bytes : List Nat)
    (he : encodeString cwOf w 0 0 [] = some bytes) (fuel : Nat) (o : List Nat)
    (hd : decodeAll table k fuel [] bytes w.length = some o) : o.take w.length = w := by
  obtain ⟨enc, pad, henc, hs⟩ := encodeString_bits hb hm he
  obtain ⟨z, hz⟩ := exists_padTo_append k enc (List.replicate pad false)
  rw [← hs] at hz
  exact decodeAll_spec t k table hT fuel [] bytes w _ _ o henc hnz hz hd

/-- A NUL-terminated string: the terminator is its last symbol and occurs nowhere else. -/
def Terminated (w : List Nat) : Prop := w.getLast? = some 0 ∧ ∀ i, i + 1 < w.length → w[i]? ≠ some 0

theorem Terminated.eq_of_prefix {a b : List Nat} (ha : Terminated a) (hb : Terminated b) (h : a <+: b) : a = b := by
  obtain ⟨t, rfl⟩ := h
  have hpos : 0 < a.length := List.length_pos_iff.mpr fun h => by
    rw [h] at ha
    cases ha.1
  have hlast : (a ++ t)[a.length - 1]? = some 0 := by
    rw [List.getElem?_append_left (Nat.sub_lt hpos Nat.one_pos), ← List.getLast?_eq_getElem?]
    exact ha.1
  have ht : t.length = 0 := Nat.eq_zero_of_not_pos fun hlt =>
    hb.2 (a.length - 1) (by rw [List.length_append, Nat.sub_add_cancel hpos]; exact Nat.lt_add_of_pos_right hlt) hlast
  rw [List.eq_nil_of_length_eq_zero ht, List.append_nil]

/-- HASHHF and HASHUFFDAC use these bytes as the keys of their hash table. -/
theorem encodeString_injective (t : Tree) (cwOf : Nat → Nat × Nat) (hb : ∀ s, (cwOf s).2 ≤ 32)
    (w w' : List Nat) (hm : TableMatches t cwOf w) (hm' : TableMatches t cwOf w')
    (hw : Terminated w) (hw' : Terminated w') (bytes : List Nat)
    (he : encodeString cwOf w 0 0 [] = some bytes) (he' : encodeString cwOf w' 0 0 [] = some bytes) : w = w' := by
  obtain ⟨enc, pad, henc, hs⟩ := encodeString_bits hb hm he
  obtain ⟨enc', pad', henc', hs'⟩ := encodeString_bits hb hm' he'
  -- the same stream decodes to both, so the shorter string starts the longer one
  have hd := decode_encode t w enc (List.replicate pad false) henc
  have hd' := decode_encode t w' enc' (List.replicate pad' false) henc'
  rw [← hs, hs'] at hd
  rw [← hs', hs] at hd'
  rcases Nat.le_total w.length w'.length with h | h
  · refine hw.eq_of_prefix hw' (List.prefix_iff_eq_take.mpr ?_)
    rw [(decode_of_encode_append t _ _ w enc w' _ henc hd').1, List.take_of_length_le h]
  · refine (hw'.eq_of_prefix hw (List.prefix_iff_eq_take.mpr ?_)).symm
    rw [(decode_of_encode_append t _ _ w' enc' w _ henc' hd).1, List.take_of_length_le h]

end CSD.StatCoder
