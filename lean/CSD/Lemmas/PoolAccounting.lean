import CSD.Lemmas.PoolInv

/-! A sum over the workers of a per-pc quantity (`sumW`: tasks in hand here, ranks in the potential), and
the invariant `Inv2`: every task pushed is in exactly one place (queue, a worker's hand, log), plus the facts
of control flow that "exactly once" and termination rest on. -/
namespace CSD.Pool

def sumW (f : WPc → Nat) (wpc : Nat → WPc) : Nat → Nat
  | 0 => 0
  | m + 1 => sumW f wpc m + f (wpc m)

theorem sumW_le {f : WPc → Nat} {w w' : Nat → WPc} (c : Nat) :
    ∀ m, (∀ j, j < m → f (w' j) ≤ f (w j) + c) → sumW f w' m ≤ sumW f w m + c * m
  | 0, _ => Nat.le_refl _
  | m + 1, h => by
    have := Nat.add_le_add (sumW_le c m fun j hj => h j (Nat.lt_succ_of_lt hj)) (h m (Nat.lt_succ_self m))
    rwa [Nat.add_add_add_comm, ← Nat.mul_succ] at this

theorem sumW_congr {f : WPc → Nat} {w w' : Nat → WPc} :
    ∀ m, (∀ j, j < m → f (w' j) = f (w j)) → sumW f w' m = sumW f w m
  | 0, _ => rfl
  | m + 1, h => by
    rw [sumW, sumW, sumW_congr m fun j hj => h j (Nat.lt_succ_of_lt hj), h m (Nat.lt_succ_self m)]

theorem sumW_upd {f : WPc → Nat} {w : Nat → WPc} {i : Nat} {p : WPc} (hp : w i = p) (v : WPc) :
    ∀ m, i < m → sumW f (upd w i v) m + f p = sumW f w m + f v
  | m + 1, h => by
    rw [sumW, sumW, Nat.add_right_comm]
    by_cases e : i = m
    · subst e
      rw [upd_same, hp, sumW_congr (w := w) i fun j hj => congrArg f (upd_other _ _ _ _ (Nat.ne_of_lt hj))]
    · rw [sumW_upd hp v m (Nat.lt_of_le_of_ne (Nat.le_of_lt_succ h) e), upd_other _ _ _ _ (Ne.symm e),
        Nat.add_right_comm]

theorem sumW_const (f : WPc → Nat) (v : WPc) : ∀ m, sumW f (fun _ => v) m = m * f v
  | 0 => (Nat.zero_mul _).symm
  | m + 1 => by rw [sumW, sumW_const f v m, Nat.succ_mul]

def WPc.hand (x : Nat) : WPc → Nat
  | .unlocked t | .run t => if t == x then 1 else 0
  | _ => 0

def PPc.remaining : PPc → List Nat
  | .addLock t r | .addPush t r => t :: r
  | .addNotify r => r
  | _ => []

theorem remaining_nextAdd (r : List Nat) : (nextAdd r).remaining = r := by
  cases r <;> rfl

structure Inv2 (tasks : List Nat) (s : State) : Prop where
  conserved : ∀ x, s.queue.count x + sumW (WPc.hand x) s.wpc s.n + s.ran.count x = s.added.count x
  /-- ties `added` to the task list -/
  progress : s.added ++ s.prod.remaining = tasks
  /-- for `exited`: who leaves from the loop condition has seen its flag set -/
  sawStop : ∀ i, i < s.n → s.wpc i = .loopEmpty → s.stopped i = true
  /-- the predicate seen true in `wait` is still true at `check` (mutex held in between): `continue` is dead -/
  checkTrue : ∀ i, i < s.n → s.wpc i = .check → s.stopped i = true ∨ s.queue ≠ []
  /-- a worker leaves only on an empty queue and nothing is pushed afterwards: the queue is empty at the end -/
  exited : ∀ i, i < s.n → (s.wpc i = .exitNotify ∨ s.wpc i = .done) → s.prod.stopping = true ∧ s.queue = []

theorem inv2_init (n : Nat) (tasks : List Nat) : Inv2 tasks (init n tasks) where
  conserved x := by
    show 0 + sumW (WPc.hand x) (fun _ => .loopStopped) n + 0 = 0
    rw [sumW_const]
    exact Nat.mul_zero n
  progress := (List.nil_append _).trans (remaining_nextAdd tasks)
  sawStop := nofun
  checkTrue := nofun
  exited _ _ h := h.elim nofun nofun

namespace Inv2
variable {tasks : List Nat} {s : State} (h2 : Inv2 tasks s)
include h2

theorem conserved_upd {i x : Nat} {p v : WPc} {q r : List Nat} (hi : i < s.n) (hpc : s.wpc i = p)
    (hbal : q.count x + v.hand x + r.count x = s.queue.count x + p.hand x + s.ran.count x) :
    q.count x + sumW (WPc.hand x) (upd s.wpc i v) s.n + r.count x = s.added.count x := by
  have h1 := sumW_upd (f := WPc.hand x) hpc v s.n hi
  have h := h2.conserved x
  omega

theorem move {i : Nat} {p v : WPc} (hi : i < s.n) (hpc : s.wpc i = p) {m : Option Tid} {r : List Nat}
    (hbal : ∀ x, v.hand x + r.count x = p.hand x + s.ran.count x := by exact fun _ => rfl)
    (hle : v = .loopEmpty → s.stopped i = true := by nofun)
    (hch : v = .check → s.stopped i = true ∨ s.queue ≠ [] := by nofun)
    (hex : (v = .exitNotify ∨ v = .done) → s.prod.stopping = true ∧ s.queue = [] := by exact (·.elim nofun nofun)) :
    Inv2 tasks { s with mutex := m, ran := r, wpc := upd s.wpc i v } :=
  { h2 with
    conserved := fun x => h2.conserved_upd hi hpc (by rw [Nat.add_assoc, hbal x, Nat.add_assoc])
    sawStop := forall_upd_eq h2.sawStop fun _ => hle
    checkTrue := forall_upd_eq h2.checkTrue fun _ => hch
    exited := forall_upd_of (fun p : WPc => p = .exitNotify ∨ p = .done) h2.exited fun _ => hex }

theorem notify : Inv2 tasks (notifyAll s) :=
  { h2 with
    conserved := fun x => by
      rw [sumW_congr _ fun j _ => apply_notifyAll (WPc.hand x) rfl s j]
      exact h2.conserved x
    sawStop := fun j hj h => h2.sawStop j hj (of_notifyAll (· = .loopEmpty) nofun h)
    checkTrue := fun j hj h => h2.checkTrue j hj (of_notifyAll (· = .check) nofun h)
    exited := fun j hj h => h2.exited j hj
      (of_notifyAll (fun p => p = .exitNotify ∨ p = .done) (·.elim nofun nofun) h) }

theorem pop (hI : Inv s) {i t : Nat} {q : List Nat} (hi : i < s.n) (hpc : s.wpc i = .check) (hq : s.queue = t :: q) :
    Inv2 tasks { s with queue := q, mutex := none, wpc := upd s.wpc i (.unlocked t) } :=
  { h2 with
    conserved := fun x => h2.conserved_upd hi hpc (by simp only [hq, List.count_cons, WPc.hand, Nat.add_zero])
    sawStop := forall_upd_eq h2.sawStop nofun
    -- nobody else is at `check` (mutual exclusion), and nobody has left the loop while the queue was not empty
    checkTrue := forall_upd (P := fun j (p : WPc) => j < s.n → p = .check → s.stopped j = true ∨ q ≠ [])
      (fun j e hj hc => absurd (hI.exclusive ⟨hj, hc ▸ rfl⟩ ⟨hi, hpc ▸ rfl⟩) e) nofun
    exited := forall_upd_of (fun p : WPc => p = .exitNotify ∨ p = .done)
      (fun j hj h => nomatch hq ▸ (h2.exited j hj h).2) (fun _ h => h.elim nofun nofun) }

theorem prod {p : PPc} {m : Option Tid} {st : Nat → Bool} (hrem : p.remaining = s.prod.remaining)
    (hstop : s.prod.stopping = true → p.stopping = true := by exact fun _ => rfl)
    (hst : ∀ i, s.stopped i = true → st i = true := by exact fun _ h => h) :
    Inv2 tasks { s with stopped := st, mutex := m, prod := p } :=
  { h2 with
    progress := (congrArg (s.added ++ ·) hrem).trans h2.progress
    sawStop := fun j hj hp => hst j (h2.sawStop j hj hp)
    checkTrue := fun j hj hp => (h2.checkTrue j hj hp).imp_left (hst j)
    exited := fun j hj hp => (h2.exited j hj hp).imp_left hstop }

theorem push {t : Nat} {r : List Nat} (hp : s.prod = .addPush t r) :
    Inv2 tasks { s with queue := s.queue ++ [t], added := s.added ++ [t], mutex := none, prod := .addNotify r } :=
  { h2 with
    conserved := fun x => by
      have := h2.conserved x
      simp only [List.count_append]
      omega
    progress := by
      rw [← h2.progress, hp]
      exact List.append_assoc ..
    checkTrue := fun j hj hc => (h2.checkTrue j hj hc).imp_right fun _ => List.append_ne_nil_of_right_ne_nil _ nofun
    exited := fun j hj h => nomatch hp ▸ (h2.exited j hj h).1 }

theorem preserved (hI : Inv s) {s' : State} {t : Tid} (h : Step s t s') : Inv2 tasks s' := by
  -- rows: see before `Inv.move`
  induction h with
  | loopStopped_clear hi hpc _ | loopEmpty_go hi hpc _ | lock hi hpc _ | wake hi hpc _ | pred_false hi hpc _ _
  | sleep hi hpc | check_continue hi hpc _ _ | spurious hi hpc => exact h2.move hi hpc
  | loopStopped_set hi hpc hst => exact h2.move hi hpc (hle := fun _ => hst)
  | loopEmpty_exit hi hpc hq =>
    exact h2.move hi hpc (hex := fun _ => ⟨hI.flagsOnlyStop _ (h2.sawStop _ hi hpc), hq⟩)
  | pred_true hi hpc hc => exact h2.move hi hpc (hch := fun _ => hc)
  | check_exit hi hpc hst hq => exact h2.move hi hpc (hex := fun _ => ⟨hI.flagsOnlyStop _ hst, hq⟩)
  | check_pop hi hpc hq => exact h2.pop hI hi hpc hq
  | unlocked hi hpc => exact (h2.move hi hpc).notify
  | run hi hpc =>
    refine h2.move hi hpc (hbal := fun x => ?_)
    rw [List.count_append, List.count_singleton]
    exact (Nat.zero_add _).trans (Nat.add_comm ..)
  | exitNotify hi hpc => exact (h2.move hi hpc (hex := fun _ => h2.exited _ hi (.inl hpc))).notify
  | addLock hp _ => exact h2.prod (hp ▸ rfl) (fun h => nomatch hp ▸ h)
  | addPush hp => exact h2.push hp
  | addNotify hp => exact (h2.prod (hp ▸ remaining_nextAdd _) (fun h => nomatch hp ▸ h)).notify
  | stopLock hp _ | stopSet_ge hp _ | join hp _ => exact h2.prod (hp ▸ rfl)
  | stopSet_lt hp _ =>
    exact h2.prod (hp ▸ rfl)
      (hst := forall_upd (P := fun i b => s.stopped i = true → b = true) (fun _ _ h => h) fun _ => rfl)
  | stopNotify hp => exact (h2.prod (hp ▸ rfl)).notify

end Inv2

theorem inv2_reachable {n : Nat} {tasks : List Nat} {s : State} (h : Reachable n tasks s) : Inv2 tasks s := by
  induction h with
  | init => exact inv2_init n tasks
  | step hr hs ih => exact ih.preserved (inv_reachable hr) (.of_step hs)

end CSD.Pool
