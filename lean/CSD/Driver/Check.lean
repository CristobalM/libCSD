/-
  Phase-2 validators and plain-definition oracles of the component streams:
  the structures exported by the real code (code tables, grammars) are re-validated
  here with the executable definitions the theorems are about.
-/
import CSD.Model.Codes
import CSD.Model.StatCoder
import CSD.Model.RePair
import CSD.Model.RG
import CSD.Model.RGImage
import CSD.Model.RPDAC
import CSD.Model.HashRP
import CSD.Model.RPDACImage
import CSD.Model.HRPDACImage
import CSD.Model.BlocksImage
import CSD.Driver.Util

namespace CSD.Driver
open CSD

def splitComma (s : String) : List String := if s == "-" then [] else s.splitOn ","

def hexNat (s : String) : Nat := s.toList.foldl (fun a c => a * 16 + hexVal c) 0

/-- Bits of a right-aligned codeword of length `len`, most significant first. -/
def cwBits (cw len : Nat) : List Bool := (List.range len).map fun i => cw.testBit (len - 1 - i)

/-- Rebuild the code tree from a table (fuel = maximal depth). -/
def treeOf : Nat → List (Nat × List Bool) → Option Codes.Tree
  | _, [] => none
  | 0, [(s, [])] => some (.leaf s)
  | 0, _ => none
  | fuel + 1, tbl =>
    match tbl with
    | [(s, [])] => some (.leaf s)
    | _ =>
      if tbl.any (fun e => e.2.isEmpty) then none else
      let l := tbl.filterMap fun (s, c) => match c with | false :: r => some (s, r) | _ => none
      let r := tbl.filterMap fun (s, c) => match c with | true :: r => some (s, r) | _ => none
      match treeOf fuel l, treeOf fuel r with
      | some tl, some tr => some (.node tl tr)
      | _, _ => none

def checkCodeTable (kind : String) (tbl : String) : String :=
  let entries := (splitComma tbl).map fun e =>
    match e.splitOn ":" with
    | [b, c] => (b.toNat?.getD 0, hexNat c)
    | _ => (0, 0)
  if entries.length != 256 then "V bad-entry-count" else
  if entries.any (fun (b, _) => b == 0 || b > 32) then "V codeword-length-outside-1..32" else
  let codes := (List.range 256).zip entries |>.map fun (s, (b, c)) => (s, cwBits c b)
  let kraft := entries.foldl (fun a (b, _) => a + 2 ^ (32 - b)) 0
  if kraft != 2 ^ 32 then s!"V not-complete kraft={kraft}" else
  match treeOf 33 codes with
  | none => "V not-prefix-free (no code tree has these paths)"
  | some t =>
    -- the table is exactly the set of root-to-leaf paths of `t`
    let paths := Codes.codes t
    if paths.length != 256 || !(codes.all fun e => paths.contains e) then "V table-differs-from-tree-paths" else
    if kind == "hu" && !(Codes.leaves t == List.range 256) then "V not-alphabetic (leaves out of order)" else
    if kind == "hu" && !((List.range 255).all fun i =>
        match codes[i]?, codes[i+1]? with
        | some a, some b => Codes.bitsLt a.2 b.2
        | _, _ => false) then "V codewords-not-increasing" else
    -- decode ∘ encode on a word that uses every symbol
    let w := List.range 256 ++ [0, 255, 7, 7, 128]
    match Codes.encode t w with
    | none => "V cannot-encode"
    | some bits =>
      match Codes.decode t w.length (bits ++ [true, false]) with
      | some (w', rest) => if w' == w && rest == [true, false] then "V ok" else "V decode-differs"
      | none => "V cannot-decode"

/-- `Grammar.expand` with the rule table computed once (`g.table` is re-evaluated by every call of
`expandSym`); the same value. -/
def expandT (g : RePair.Grammar) (tbl : List (List Nat)) (seq : List Nat) : List Nat :=
  seq.flatMap (RePair.expandWith g.terminals tbl)

theorem expandT_table (g : RePair.Grammar) (seq : List Nat) : expandT g g.table seq = g.expand seq := rfl

/-- `Grammar.table` built with an array (constant-time pushes and look-ups) for grammars of hundreds of
thousands of rules; the same table. -/
def tableArrFrom (terminals : Nat) : List (Nat × Nat) → Array (List Nat) → Array (List Nat)
  | [], tbl => tbl
  | (a, b) :: rest, tbl =>
    tableArrFrom terminals rest
      (tbl.push ((if a < terminals then [a] else tbl.getD (a - terminals) []) ++
                 (if b < terminals then [b] else tbl.getD (b - terminals) [])))

theorem tableArrFrom_eq (terminals : Nat) : ∀ (rules : List (Nat × Nat)) (tbl : Array (List Nat)),
    (tableArrFrom terminals rules tbl).toList = RePair.buildTable terminals rules tbl.toList
  | [], tbl => rfl
  | (a, b) :: rest, tbl => by
    rw [tableArrFrom, tableArrFrom_eq terminals rest, Array.toList_push, RePair.buildTable]
    simp only [RePair.expandWith, Array.getD_eq_getD_getElem?, Array.getElem?_toList, List.getD_eq_getElem?_getD]

def expandA (terminals : Nat) (tbl : Array (List Nat)) (seq : List Nat) : List Nat :=
  seq.flatMap fun s => if s < terminals then [s] else tbl.getD (s - terminals) []

theorem expandA_eq (g : RePair.Grammar) (seq : List Nat) :
    expandA g.terminals (tableArrFrom g.terminals g.rules #[]) seq = g.expand seq := by
  unfold expandA RePair.Grammar.expand RePair.Grammar.expandSym RePair.Grammar.table
  -- both sides are `seq.flatMap`; pointwise, `getD` on the array is `getD` on the list `tableArrFrom_eq` gives
  congr 1
  funext s
  rw [Array.getD_eq_getD_getElem?, ← Array.getElem?_toList, tableArrFrom_eq]
  rfl

def checkRePair (maxchar input t bits rules seq : String) : String :=
  let inp := (splitComma input).map fun x => x.toNat?.getD 0
  let terminals := t.toNat?.getD 0
  let rl := (splitComma rules).map fun e =>
    match e.splitOn ":" with
    | [a, b] => (a.toNat?.getD 0, b.toNat?.getD 0)
    | _ => (0, 0)
  let cs := (splitComma seq).map fun x => x.toNat?.getD 0
  let g : RePair.Grammar := { terminals := terminals, rules := rl }
  if !g.wf then "V rule-refers-forward" else
  if !g.zeroFree then "V rule-contains-terminator" else
  if !(cs.all fun x => x < terminals + rl.length) then "V sequence-symbol-out-of-range" else
  -- table and expansion through an array (`expandA_eq`: the same list as `g.expand cs`)
  if expandA terminals (tableArrFrom terminals rl #[]) cs != inp then "V expansion-differs-from-input" else
  let b := bits.toNat?.getD 0
  if b != RePair.bits (rl.length + terminals) then s!"V bits-reported={b}-expected={RePair.bits (rl.length + terminals)}" else
  if !(terminals + rl.length ≤ 2 ^ b) then "V bits-do-not-suffice" else
  if !(inp.all fun x => x < terminals) then s!"V terminal-outside-alphabet maxchar={maxchar}" else
  "V ok"

/-- The RPDAC object exported by the real code (grammar, one symbol sequence per string, its own
answers) against the hypotheses of `CSD.RPDAC.locate_represents` (`Represents`: well-formed rules,
valid symbols, the i-th sequence expands to the i-th string) — and the model of the query layer run
on those very structures against the real answers and the specification. -/
def checkRpdac (strsHex queriesHex prefHex t rules seqs loc abs pre : String) : String :=
  let S : List Str := (splitComma strsHex).map unhex
  let Q : List Str := (splitComma queriesHex).map unhex
  let terminals := t.toNat?.getD 0
  let rl := (splitComma rules).map fun e =>
    match e.splitOn ":" with
    | [a, b] => (a.toNat?.getD 0, b.toNat?.getD 0)
    | _ => (0, 0)
  let sq : List (List Nat) := if seqs == "-" then [] else (seqs.splitOn ";").map fun x => (x.splitOn ",").map fun y => y.toNat?.getD 0
  let g : RePair.Grammar := { terminals := terminals, rules := rl }
  let d : RPDAC.D := { g := g, seqs := sq }
  let nat (s : Str) : List Nat := s.map (·.toNat)
  if !g.wf then "V rule-refers-forward" else
  if sq.length != S.length then s!"V sequences={sq.length}-strings={S.length}" else
  if !(sq.all fun syms => syms.all fun x => x < terminals + rl.length) then "V sequence-symbol-out-of-range" else
  if !(let tbl := g.table; (sq.zip S).all fun (syms, s) => expandT g tbl syms == nat s) then "V a-sequence-does-not-expand-to-its-string" else
  -- the model of locate on the real structures
  let implLoc := (splitComma loc).map fun x => x.toNat?.getD 0
  let implAbs := (splitComma abs).map fun x => x.toNat?.getD 0
  let modLoc := S.map fun s => RPDAC.locate d (nat s)
  let modAbs := Q.map fun q => RPDAC.locate d (nat q)
  if modLoc != implLoc.map some then "V model-locate-differs-from-code-on-a-member" else
  if modAbs != implAbs.map some then "V model-locate-differs-from-code-on-a-query" else
  if modLoc != (S.map fun s => some (Spec.locate S s)) then "V model-locate-differs-from-spec" else
  if modAbs != (Q.map fun q => some (Spec.locate S q)) then "V model-locate-differs-from-spec-on-a-query" else
  -- the table scan of the model iterator on the real structures
  if RPDAC.extractTable d != some (S.map nat) then "V model-extractTable-differs-from-spec" else
  -- prefix search: the model on the real structures vs the code's ranges vs the specification
  let P : List Str := (splitComma prefHex).map unhex
  let implPre := (splitComma pre).map fun e =>
    match e.splitOn ":" with
    | [a, b] => (a.toNat?.getD 0, b.toNat?.getD 0)
    | _ => (0, 0)
  let modPre := P.map fun p => RPDAC.locatePrefix d (nat p)
  let specPre := P.map fun p =>
    let ids := Spec.prefixIds S p
    match ids.head?, ids.getLast? with
    | some a, some b => some (a, b)
    | _, _ => some (0, 0)
  if modPre != implPre.map some then "V model-locatePrefix-differs-from-code" else
  if modPre != specPre then "V model-locatePrefix-differs-from-spec" else
  -- the string iterator of `extractPrefix` on the real grammar
  let specXp := P.map fun p => some (((Spec.prefixIds S p).filterMap (Spec.extract S)).map nat)
  if (P.map fun p => RPDAC.extractPrefix d (nat p)) != specXp then "V model-extractPrefix-differs-from-spec" else
  "V ok"

/-- The HASHRPDAC object exported by the real code against the exact table model (size, occupancy) and
the hypotheses of `CSD.Hash.locateRP_eq` (`StoresRP`: the sequence at DAC position `id` expands to the
string whose cell has rank `id`), and the model of the real `locate` run on those structures. -/
def checkHrpdac (strsHex queriesHex hs ts occ t rules seqs loc abs : String) : String :=
  let S : List Str := (splitComma strsHex).map unhex
  let Q : List Str := (splitComma queriesHex).map unhex
  let terminals := t.toNat?.getD 0
  let rl := (splitComma rules).map fun e =>
    match e.splitOn ":" with
    | [a, b] => (a.toNat?.getD 0, b.toNat?.getD 0)
    | _ => (0, 0)
  let sq : List (List Nat) := if seqs == "-" then [] else (seqs.splitOn ";").map fun x => (x.splitOn ",").map fun y => y.toNat?.getD 0
  let g : RePair.Grammar := { terminals := terminals, rules := rl }
  let d := Hash.build (hs.toNat?.getD 0) S
  if d.tsize != ts.toNat?.getD 0 then s!"V table-size model={d.tsize} code={ts}" else
  -- the hypothesis `accepted` of the hash theorems (the size passed nearest_prime's own trial division)
  if !(d.tsize % 2 != 0 && Hash.oddTrial d.tsize (Nat.sqrt d.tsize + 2) 3) then "V table-size-not-accepted-by-nearest_prime" else
  if !(S.length ≤ hs.toNat?.getD 0) then "V requested-size-below-the-number-of-strings" else
  let modOcc := String.ofList (d.table.map fun c => if c.isSome then '1' else '0')
  if modOcc != occ then "V occupancy-bitmap-differs" else
  if !g.wf then "V rule-refers-forward" else
  if sq.length != S.length then s!"V sequences={sq.length}-strings={S.length}" else
  if !(sq.all fun syms => syms.all fun x => x < terminals + rl.length) then "V sequence-symbol-out-of-range" else
  -- StoresRP: DAC position id holds the string with ID id
  let tbl := g.table
  if !((List.range S.length).all fun i =>
        match Hash.extract d (i + 1), sq[i]? with
        | some w, some syms => expandT g tbl syms == Hash.natBytes w
        | _, _ => false) then "V a-DAC-position-does-not-hold-the-string-with-that-ID" else
  let implLoc := (splitComma loc).map fun x => x.toNat?.getD 0
  let implAbs := (splitComma abs).map fun x => x.toNat?.getD 0
  let modLoc := S.map fun s => Hash.locateRP d g sq s
  let modAbs := Q.map fun q => Hash.locateRP d g sq q
  if modLoc != implLoc.map some then "V model-locate-differs-from-code-on-a-member" else
  if modAbs != implAbs.map some then "V model-locate-differs-from-code-on-a-query" else
  if modLoc != (S.map fun s => some (Hash.locate d s)) then "V locateRP-differs-from-table-locate" else
  if !(modAbs.zip Q).all (fun (r, q) => (r == some 0) == !(S.contains q)) then "V absent-query-not-answered-0" else
  "V ok"

/-- Prefix of the stream whose expansion has `n` terminals (greedy; `none` if it does not end on a symbol). -/
def takeExp (g : RePair.Grammar) (tbl : List (List Nat)) : Nat → List Nat → Nat → Option (List Nat)
  | 0, _, _ => none
  | _ + 1, _, 0 => some []
  | fuel + 1, [], _ + 1 => none
  | fuel + 1, x :: xs, n + 1 =>
    let k := (RePair.expandWith g.terminals tbl x).length
    if k = 0 ∨ k > n + 1 then none else (takeExp g tbl fuel xs (n + 1 - k)).map (x :: ·)

/-- The HASHRPF object exported by the real code against the exact table model and the hypotheses of
`CSD.Hash.locateRPF_eq` (`StoresRPF`), and the model of the real `locate` run on those structures. -/
def checkHrpf (strsHex queriesHex hs ts occ t mc rules cls offs loc abs : String) : String :=
  let S : List Str := (splitComma strsHex).map unhex
  let Q : List Str := (splitComma queriesHex).map unhex
  let terminals := t.toNat?.getD 0
  let T := mc.toNat?.getD 0
  let rl := (splitComma rules).map fun e =>
    match e.splitOn ":" with
    | [a, b] => (a.toNat?.getD 0, b.toNat?.getD 0)
    | _ => (0, 0)
  let clsL := (splitComma cls).map fun x => x.toNat?.getD 0
  let offL := (splitComma offs).map fun x => x.toNat?.getD 0
  let g : RePair.Grammar := { terminals := terminals, rules := rl }
  let d := Hash.build (hs.toNat?.getD 0) S
  if d.tsize != ts.toNat?.getD 0 then s!"V table-size model={d.tsize} code={ts}" else
  if !(d.tsize % 2 != 0 && Hash.oddTrial d.tsize (Nat.sqrt d.tsize + 2) 3) then "V table-size-not-accepted-by-nearest_prime" else
  if !(S.length ≤ hs.toNat?.getD 0) then "V requested-size-below-the-number-of-strings" else
  let modOcc := String.ofList (d.table.map fun c => if c.isSome then '1' else '0')
  if modOcc != occ then "V occupancy-bitmap-differs" else
  if !g.wf then "V rule-refers-forward" else
  if !(clsL.all fun x => x < terminals + rl.length) then "V sequence-symbol-out-of-range" else
  if !(S.all fun s => !(Hash.natBytes s).contains T) then "V terminator-occurs-in-a-string" else
  -- offsets of the occupied cells, in cell order
  let cells := (d.table.zipIdx).filterMap fun (c, i) => c.map fun k => (i, k)
  if cells.length != offL.length then s!"V offsets={offL.length}-occupied={cells.length}" else
  let offOf : Nat → Nat := fun cell => ((cells.zip offL).find? fun ((i, _), _) => i == cell).map (·.2) |>.getD 0
  -- StoresRPF: from the offset of a cell on, symbols expanding to that cell's string and the terminator
  let tbl := g.table
  if !((cells.zip offL).all fun ((_, k), o) =>
        match S[k]? with
        | some s =>
          match takeExp g tbl (s.length + 3) (clsL.drop o) (s.length + 1) with
          | some syms => expandT g tbl syms == Hash.natBytes s ++ [T]
          | none => false
        | none => false) then "V a-cell-offset-does-not-lead-to-its-string" else
  let implLoc := (splitComma loc).map fun x => x.toNat?.getD 0
  let implAbs := (splitComma abs).map fun x => x.toNat?.getD 0
  let modLoc := S.map fun s => Hash.locateRPF d g T clsL offOf s
  let modAbs := Q.map fun q => Hash.locateRPF d g T clsL offOf q
  if modLoc != implLoc.map some then "V model-locate-differs-from-code-on-a-member" else
  if modAbs != implAbs.map some then "V model-locate-differs-from-code-on-a-query" else
  if modLoc != (S.map fun s => some (Hash.locate d s)) then "V locateRPF-differs-from-table-locate" else
  if !(modAbs.zip Q).all (fun (r, q) => (r == some 0) == !(S.contains q)) then "V absent-query-not-answered-0" else
  "V ok"

/-- bit `k` of the hex-encoded byte string -/
def bitsOfHex (h : String) (n : Nat) : List Bool :=
  let bytes := unhex h
  (List.range n).map fun k => ((bytes.getD (k / 8) 0).toNat >>> (k % 8)) % 2 == 1

def joinNat (l : List Nat) : String := if l.isEmpty then "-" else ",".intercalate (l.map toString)

/-- Positions (0-based) of the `true` bits / `false` bits. -/
def positionsOf (bits : List Bool) (v : Bool) : List Nat :=
  (bits.zipIdx).filterMap fun (b, i) => if b == v then some i else none

def bvLine (impl : String) (par n : Nat) (h : String) : String :=
  let bits := bitsOfHex h n
  let acc := if bits.isEmpty then "-" else String.ofList (bits.map fun b => if b then '1' else '0')
  -- words for the exact RG model
  let words := (List.range (n / 32 + 2)).map fun w =>
    (List.range 32).foldl (fun a i => if bits.getD (32 * w + i) false then a + 2 ^ i else a) 0
  let prefixOnes := (List.range n).map fun k => (bits.take (k + 1)).count true
  let r1 := if impl == "rg" && par > 0 then (List.range n).map (RG.rank1 words par) else prefixOnes
  let r0 := (List.range n).zip r1 |>.map fun (k, r) => k + 1 - r
  -- select1 through the exact model of BitSequenceRG::select1 (and it must agree with the plain positions)
  let total := bits.count true
  let s1plain := positionsOf bits true
  let s1 := if impl == "rg" && par > 0 then
      (List.range total).map fun j => RG.select1 (words.take (n / 32 + 1)) par n total (j + 1)
    else s1plain.map some
  let s1txt := if s1 == s1plain.map some then joinNat s1plain
    else "MODEL-DIFFERS-FROM-PLAIN:" ++ joinNat (s1.map fun o => o.getD 4000000000)
  -- select0 through the exact model of BitSequenceRG::select0
  let s0plain := positionsOf bits false
  let s0 := if impl == "rg" && par > 0 then
      (List.range (n - total)).map fun j => RG.select0 (words.take (n / 32 + 1)) par n total (j + 1)
    else s0plain.map some
  let s0txt := if s0 == s0plain.map some then joinNat s0plain
    else "MODEL-DIFFERS-FROM-PLAIN:" ++ joinNat (s0.map fun o => o.getD 4000000000)
  -- the image `save` writes for the built object (data words, `BuildRank` counters), and it must reload to itself
  let img := if impl == "rg" && par > 0 then
      let d := RG.build words n par
      let bytes := RG.saveImg d
      match RG.loadImg (bytes ++ [7]) with
      | some (d', [7]) => if d' == d then hexOfBytes bytes else "MODEL-RELOAD-DIFFERS"
      | _ => "MODEL-RELOAD-FAILS"
    else "-"
  s!"BV n={n} acc={acc} r1={joinNat r1} r0={joinNat r0} s1={s1txt} s0={s0txt} cnt={bits.count true} img={img}"

def wtLine (syms : String) : String :=
  let seq := (splitComma syms).map fun x => x.toNat?.getD 0
  let n := seq.length
  let mx := seq.foldl max 0
  let rk := (List.range (mx + 1)).flatMap fun c =>
    (List.range n).filterMap fun i =>
      if i % 3 == 0 || i + 1 == n then some ((seq.take (i + 1)).count c) else none
  let sl := (List.range (mx + 1)).flatMap fun c =>
    (seq.zipIdx).filterMap fun (x, i) => if x == c then some i else none
  let j := fun (l : List Nat) => if l.isEmpty then "-" else String.join (l.map fun x => toString x ++ ",")
  s!"WT n={n} acc={joinNat seq} rk={j rk} sl={j sl}"


/-- The saved image of a real StringDictionaryRPDAC: the model loader must consume exactly the image, the
model writer must reproduce it byte for byte from the parsed fields, and the parsed counters, rule table and
array sizes must be those of the object (`CSD.RPDACImg.load_save`). -/
def checkRpdacImg (img el ml t mc rules : String) : String :=
  let nat (s : String) := s.toNat?.getD 0
  let bytes := unhex img
  match RPDACImg.load 3 124 (bytes ++ [0x55, 0xaa]) with
  | none => "V model-loader-refuses-the-image"
  | some (d, rest) =>
    if rest != [0x55, 0xaa] then "V loader-does-not-consume-exactly-the-image" else
    if RPDACImg.save 3 d != bytes then "V model-save-differs-from-the-image" else
    if d.elements != nat el then "V elements-differ" else
    if d.maxlength != nat ml then "V maxlength-differs" else
    if d.rp.terminals != nat t || d.rp.maxchar != nat mc then "V grammar-header-differs" else
    let rl := (splitComma rules).map fun e =>
      match e.splitOn ":" with
      | [a, b] => (nat a, nat b)
      | _ => (0, 0)
    if d.rp.rules != rl.length then "V rule-count-differs" else
    if !((List.range rl.length).all fun k =>
          (d.rp.G.get (2 * k)).map (·.toNat) == some (rl.getD k (0, 0)).1 &&
          (d.rp.G.get (2 * k + 1)).map (·.toNat) == some (rl.getD k (0, 0)).2) then "V rule-table-differs" else
    -- the hypotheses of `load_save` on the parsed object
    if !(d.rp.G.data.length == LogSeq.numWords d.rp.G.numbits d.rp.G.numentries) then "V rule-table-word-count" else
    let c := d.rp.cdac
    if !(c.levelsIndex.length == c.nLevels + 1 && c.levels.length == c.tamCode / 32 + 1 && c.rankLevels.length == c.nLevels) then
      "V dac-array-lengths" else
    if c.listLength != nat el then "V dac-list-length-differs-from-elements" else
    "V ok"


/-- The saved image of a real StringDictionaryHASHRPDAC: consumed exactly by the model loader, reproduced byte
for byte by the model writer, and carrying the counters, the table size and the occupancy bitmap of the object
(`CSD.HRPDACImg.load_save`). -/
def checkHrpdacImg (img el ml ts n occ : String) : String :=
  let nat (s : String) := s.toNat?.getD 0
  let bytes := unhex img
  match HRPDACImg.load (bytes ++ [0x55, 0xaa]) with
  | none => "V model-loader-refuses-the-image"
  | some (d, rest) =>
    if rest != [0x55, 0xaa] then "V loader-does-not-consume-exactly-the-image" else
    if HRPDACImg.save d != bytes then "V model-save-differs-from-the-image" else
    if d.elements != nat el || d.maxlength != nat ml then "V counters-differ" else
    if d.tsize != nat ts || d.n != nat n then "V table-header-differs" else
    if d.bht.n != nat ts then "V bitmap-length-differs-from-the-table-size" else
    let bits : List Bool := if occ == "-" then [] else occ.toList.map (· == '1')
    if !((List.range bits.length).all fun i => ((d.bht.data.getD (i / 32) 0) >>> (i % 32)) % 2 == (if bits.getD i false then 1 else 0)) then
      "V occupancy-bitmap-differs" else
    if d.rp.cdac.listLength != nat el then "V dac-list-length-differs-from-elements" else
    "V ok"


/-- The saved image of a real block dictionary: consumed exactly by the model loader, reproduced byte for byte
by the model writer, with the header, first strings, starting IDs and part sizes of the object
(`CSD.BlocksImg.load_save`); the parts partition the input: their sizes add up to the number of strings, the
starting IDs are the running sums, and every first string is the member at that position. -/
def checkBlocksImg (strsHex img ml cs sq np firsts starts pel : String) : String :=
  let nat (s : String) := s.toNat?.getD 0
  let S : List Str := (splitComma strsHex).map unhex
  let bytes := unhex img
  match BlocksImg.load (bytes ++ [0x55, 0xaa]) with
  | none => "V model-loader-refuses-the-image"
  | some (d, rest) =>
    if rest != [0x55, 0xaa] then "V loader-does-not-consume-exactly-the-image" else
    if BlocksImg.save d != bytes then "V model-save-differs-from-the-image" else
    if d.maxlength != nat ml || d.cutSize != nat cs || d.stringsQty != nat sq then "V header-differs" else
    if d.parts.length != nat np || d.samples.length != nat np || d.starts.length != nat np then "V part-count-differs" else
    let fs : List Str := (splitComma firsts).map fun h => if h == "e" then [] else unhex h
    if d.samples != fs then "V first-strings-differ" else
    if d.starts != (splitComma starts).map nat then "V starting-ids-differ" else
    let sizes := d.parts.map (·.elements)
    if sizes != (splitComma pel).map nat then "V part-sizes-differ" else
    if sizes.foldl (· + ·) 0 != S.length || d.stringsQty != S.length then "V parts-do-not-add-up-to-the-input" else
    -- running sums and first strings against the input
    let rec go : List Nat → List Nat → List Str → Nat → Bool
      | sz :: szs, st :: sts, f :: fs, acc => st == acc && S[acc]? == some f && go szs sts fs (acc + sz)
      | [], [], [], _ => true
      | _, _, _, _ => false
    if !(go sizes d.starts d.samples 0) then "V starting-ids-or-first-strings-do-not-follow-the-input" else
    "V ok"


/-- The bytes the real `StatCoder::encodeString` wrote for words that put the longest codewords at every bit
offset: the exact model of `encodeSymbol` (32-bit shifts) on the exported table must write the same bytes. -/
def checkEncoder (tbl enc : String) : String :=
  let entries := (splitComma tbl).map fun e =>
    match e.splitOn ":" with
    | [b, c] => (b.toNat?.getD 0, hexNat c)
    | _ => (0, 0)
  let cwOf : Nat → Nat × Nat := fun s => let e := entries.getD s (0, 0); (e.2, e.1)
  let pairs := (enc.splitOn ";").map fun p =>
    match p.splitOn ":" with
    | [w, b] => (unhex w, unhex b)
    | _ => ([], [])
  if pairs.all fun (w, b) => StatCoder.encodeString cwOf (w.map (·.toNat)) 0 0 [] == some (b.map (·.toNat))
  then "V ok" else "V encoder-bytes-differ-from-the-model"

def runCheckStreams (c : Case) (emit : Nat → String → IO Unit) : IO Unit := do
  let mut k := 0
  for op in c.ops do
    k := k + 1
    match op with
    | ["ctchk", kind, tbl] => emit k (checkCodeTable kind tbl)
    | ["ctchk", kind, tbl, enc] =>
      let v := checkCodeTable kind tbl
      emit k (if v == "V ok" then checkEncoder tbl enc else v)
    | ["rpchk", maxchar, input, t, bits, rules, seq] => emit k (checkRePair maxchar input t bits rules seq)
    | ["rdchk", strs, qs, ps, t, rules, seqs, loc, abs, pre] => emit k (checkRpdac strs qs ps t rules seqs loc abs pre)
    | ["hdchk", strs, qs, hs, ts, occ, t, rules, seqs, loc, abs] => emit k (checkHrpdac strs qs hs ts occ t rules seqs loc abs)
    | ["hfchk", strs, qs, hs, ts, occ, t, mc, rules, cls, offs, loc, abs] =>
      emit k (checkHrpf strs qs hs ts occ t mc rules cls offs loc abs)
    | ["rdskip"] => emit k "V ok"
    | ["rpbigchk", v] => emit k (if v == "ok=1" then "V ok" else "V expansion-of-a-large-grammar-differs-from-its-input")
    | ["richk", img, el, ml, t, mc, rules] => emit k (checkRpdacImg img el ml t mc rules)
    | ["hichk", img, el, ml, ts, n, occ] => emit k (checkHrpdacImg img el ml ts n occ)
    | ["bichk", strs, img, ml, cs, sq, np, firsts, starts, pel] => emit k (checkBlocksImg strs img ml cs sq np firsts starts pel)
    | "bv" :: impl :: par :: n :: h :: _ => emit k (bvLine impl (par.toNat?.getD 0) (n.toNat?.getD 0) h)
    | "bvh" :: _ :: _ :: n :: h :: _ =>
      -- long vectors: the harness checks every select and a grid of rank/access against the plain definitions
      -- itself; the specification says nothing differs
      let nn := n.toNat?.getD 0
      let bytes := unhex h
      -- the packing pads the last byte with zeros, so the ones of the vector are the ones of the bytes
      let ones := bytes.foldl (fun a b => a + (List.range 8).foldl (fun c i => c + (b.toNat >>> i) % 2) 0) 0
      emit k s!"BVH n={nn} ones={ones} bad=0 bad_reloaded=0"
    | "wt" :: _ :: syms :: _ => emit k (wtLine syms)
    | _ => emit k "V unparsable-export"

end CSD.Driver
